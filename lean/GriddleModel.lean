import GriddleModel.Basic
import GriddleModel.Table
import GriddleModel.Raw
import GriddleModel.Map
import GriddleModel.Protocol
import GriddleModel.Panic
import GriddleModel.Serde
import GriddleModel.Par
import GriddleModel.Set
import GriddleModel.Iter
import GriddleModel.Lemmas.Small
import GriddleModel.Props.C01
import GriddleModel.Props.C01Extend
import GriddleModel.Props.C02
import GriddleModel.Props.C03
import GriddleModel.Props.C04
import GriddleModel.Props.C05
import GriddleModel.Props.C10
import GriddleModel.Props.C06
import GriddleModel.Props.C08
import GriddleModel.Props.C08Steps
import GriddleModel.Props.C14
import GriddleModel.Props.C17
import GriddleModel.Props.C07
import GriddleModel.Props.C07Calls
import GriddleModel.Props.C09
import GriddleModel.Props.C11
import GriddleModel.Props.C12
import GriddleModel.Props.C06Entry
import GriddleModel.Props.C13
import GriddleModel.Props.C13Ops
import GriddleModel.Props.C15
import GriddleModel.Props.C16
