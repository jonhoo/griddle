/-
  C04 — Headroom: a resize in progress never has to be interrupted by another.

  Theorems over the model (`GriddleModel.Raw`), for every state satisfying the invariant, every
  `R ≥ 1` and every oracle value (tombstone landings).
-/
import GriddleModel.Lemmas.Insert
namespace Griddle.C04

/-- `capacity() >= len()` in every state satisfying the invariant. -/
theorem cap_ge_len {R : Nat} {t : Raw} (h : Inv R t) : t.len ≤ t.capacity := h.len_le_capacity

/-- free room, in the property's terms: `capacity() - len()` -/
def room (t : Raw) : Nat := t.capacity - t.len

theorem room_eq {R : Nat} {t : Raw} (h : Inv R t) :
    room t + (match t.lo with | some o => o.ents.length | none => 0) = t.main.gl := by
  unfold room Raw.len Raw.capacity HB.capacity
  cases hlo : t.lo with
  | none => simp
  | some o => have := (h.head o hlo).1; simp only; omega

/-- One insertion of an unseen key while `len() < capacity()`: no panic, no allocation, the main
    table is not replaced, `capacity()` does not decrease, the invariant is kept. -/
theorem insert_within_capacity (c : Cfg) (hR : 0 < c.R) (t : Raw) (e : Entry) (hits : Nat) (perm : List Nat)
    (h : Inv c.R t) (hfresh : e.k ∉ keysOf t.ents) (hroom : 0 < room t) :
    OkOr (Raw.insert c t e hits perm) (fun r =>
      Inv c.R r.1 ∧ r.1.ents.Perm (e :: t.ents) ∧ r.2.2.allocs = 0 ∧
      r.1.main.buckets = t.main.buckets ∧ t.capacity ≤ r.1.capacity ∧ room t ≤ room r.1 + 1 ∧
      (∀ o, t.lo = some o →
        (o.ents.length ≤ c.R → r.1.lo = none) ∧
        (c.R < o.ents.length → ∃ o', r.1.lo = some o' ∧ o'.ents.length = o.ents.length - c.R)) ∧
      (t.lo = none → r.1.lo = none)) := by
  have hgl : 0 < t.main.gl := by have := room_eq h; omega
  rw [Raw.insert, if_neg (Nat.ne_of_gt hgl)]
  have hs := Raw.insertNoGrow_spec c hR t e hits h hgl hfresh
  refine hs.mono fun r hr => ?_
  obtain ⟨⟨t2, _, c2⟩, -, s1, s2, s3, s4, s5, -, -, -, s9, s10⟩ := r, hr
  refine ⟨s1, s2, s5, s3, s4, ?_, fun o ho => (s9 o ho).2, fun hn => (s10 hn).1⟩
  -- one more element, and the capacity did not shrink
  have hlen : Raw.len t2 = t.len + 1 := by rw [Raw.len_eq, Raw.len_eq, s2.length_eq]; rfl
  have := cap_ge_len s1
  simp only [room, Raw.capacity] at s4 this ⊢
  omega

/-- Insert the keys of `es` one after the other (oracle: `hits i` tombstone landings in step `i`). -/
def fill (c : Cfg) : Raw → List Entry → (Nat → Nat) → Except Fault (Raw × Nat)
  | t, [], _ => .ok (t, 0)
  | t, e :: rest, hits =>
    match Raw.insert c t e (hits rest.length) [] with
    | .error f => .error f
    | .ok (t', _, cost) =>
      match fill c t' rest hits with
      | .error f => .error f
      | .ok (t'', allocs) => .ok (t'', cost.allocs + allocs)

/-- what one insertion leaves parked when `n + 1` insertions cover what is parked now -/
theorem parked_after_insert {R L n : Nat} (hlt : R < L) (hb : L ≤ (n + 1) * R) : 0 < n ∧ L - R ≤ n * R := by
  rw [Nat.succ_mul] at hb
  refine ⟨Nat.pos_of_ne_zero fun h0 => ?_, by omega⟩
  rw [h0, Nat.zero_mul] at hb
  omega

/-- No resize is pending afterwards as soon as the insertions, at least one of them, cover what is parked (an old
    table that `erase` has emptied in place is released by the next insertion only, hence `0 < es.length`). -/
theorem fill_full (c : Cfg) (hR : 0 < c.R) (hits : Nat → Nat) :
    ∀ (es : List Entry) (t : Raw), Inv c.R t →
      (keysOf es).Nodup → (∀ e ∈ es, e.k ∉ keysOf t.ents) → es.length ≤ room t →
      OkOr (fill c t es hits) (fun r =>
        Inv c.R r.1 ∧ r.2 = 0 ∧ t.capacity ≤ r.1.capacity ∧ r.1.main.buckets = t.main.buckets ∧
        r.1.ents.Perm (es.reverse ++ t.ents) ∧
        ((∀ o, t.lo = some o → 0 < es.length ∧ o.ents.length ≤ es.length * c.R) → r.1.lo = none)) := by
  intro es
  induction es with
  | nil =>
    intro t h _ _ _
    refine .ok ⟨h, rfl, Nat.le_refl _, rfl, .refl _, fun hb => ?_⟩
    cases hlo : t.lo with
    | none => rfl
    | some o => exact absurd (hb o hlo).1 (Nat.lt_irrefl 0)
  | cons e rest ih =>
    intro t h hnd hfresh hlen
    obtain ⟨hne, hnd⟩ := keysOf_cons_nodup.1 hnd
    rw [List.length_cons] at hlen
    unfold fill
    have h1 := insert_within_capacity c hR t e (hits rest.length) [] h (hfresh e List.mem_cons_self)
      (Nat.lt_of_lt_of_le (Nat.succ_pos _) hlen)
    refine h1.elim (fun _ => id) fun r1 hr1 => ?_
    obtain ⟨⟨t1, _, c1⟩, i1, p1, a1, b1, cap1, r1, lo1, lon1⟩ := r1, hr1
    dsimp only at i1 p1 a1 b1 cap1 r1 lo1 lon1 ⊢
    have hfresh' : ∀ x ∈ rest, x.k ∉ keysOf t1.ents := fun x hx hmem => by
      have := (keysOf_perm p1).mem_iff.1 hmem
      rw [keysOf, List.map_cons, List.mem_cons] at this
      rcases this with heq | hin
      · exact hne (heq ▸ mem_keysOf hx)
      · exact hfresh x (List.mem_cons_of_mem _ hx) hin
    have h2 := ih t1 i1 hnd hfresh' (Nat.le_of_succ_le_succ (Nat.le_trans hlen r1))
    refine h2.elim (fun _ => id) fun r2 hr2 => ?_
    obtain ⟨⟨t2, al⟩, i2, z2, cap2, b2, p2, lo2⟩ := r2, hr2
    refine .ok ?_
    dsimp only at i2 z2 cap2 b2 p2 lo2 ⊢
    refine ⟨i2, by rw [a1, z2], Nat.le_trans cap1 cap2, b2.trans b1, ?_, fun hb => lo2 fun o1 ho1 => ?_⟩
    · refine p2.trans ?_
      rw [List.reverse_cons (a := e), List.append_assoc]
      exact p1.append_left _
    · -- what is parked after the first insertion was parked before it, and `R` of it have moved
      cases hlo : t.lo with
      | none => rw [lon1 hlo] at ho1; cases ho1
      | some o =>
        rcases Nat.lt_or_ge c.R o.ents.length with hlt | hle
        · obtain ⟨o', ho', hl'⟩ := (lo1 o hlo).2 hlt
          cases ho'.symm.trans ho1
          exact hl' ▸ parked_after_insert hlt (hb o hlo).2
        · rw [(lo1 o hlo).1 hle] at ho1; cases ho1

/-- **Fill to capacity.**  From any state satisfying the invariant, inserting up to
    `capacity() - len()` previously unseen keys completes without panic, without any table
    allocation, without `capacity()` decreasing, keeps the invariant — and if exactly
    `capacity() - len()` (at least one) keys were inserted, no resize is pending afterwards. -/
theorem fill_to_capacity (c : Cfg) (hR : 0 < c.R) (hits : Nat → Nat) :
    ∀ (es : List Entry) (t : Raw), Inv c.R t →
      (keysOf es).Nodup → (∀ e ∈ es, e.k ∉ keysOf t.ents) → es.length ≤ room t →
      OkOr (fill c t es hits) (fun r =>
        Inv c.R r.1 ∧ r.2 = 0 ∧ t.capacity ≤ r.1.capacity ∧ r.1.main.buckets = t.main.buckets ∧
        r.1.ents.Perm (es.reverse ++ t.ents) ∧
        (es ≠ [] → (∀ o, t.lo = some o → o.ents.length ≤ es.length * c.R) → r.1.lo = none)) :=
  fun es t h hnd hfresh hlen => (fill_full c hR hits es t h hnd hfresh hlen).mono
    fun _ ⟨h1, h2, h3, h4, h5, h6⟩ =>
      ⟨h1, h2, h3, h4, h5, fun hne hb => h6 fun o ho => ⟨List.length_pos_iff.2 hne, hb o ho⟩⟩

/-- The bound used above follows from the invariant: a map with `capacity() - len()` free slots can
    always finish its pending resize within that many insertions. -/
theorem pending_fits_room (c : Cfg) (hR : 0 < c.R) (t : Raw) (h : Inv c.R t) (o : Old) (ho : t.lo = some o) :
    o.ents.length ≤ room t * c.R := by
  have hr := room_eq h
  simp only [ho] at hr
  have hh := (h.head o ho).1
  exact (ceilDiv_le_iff hR).1 (by omega)

/-- non-vacuity: a reachable mid-resize state satisfies the invariant with a tight headroom -/
example : Inv 8 { main := { buckets := 32, ents := [], gl := 17 },
                  lo := some { buckets := 16, ents := (List.range 14).map (fun i => ⟨i, 2*i, i, 2*i+1⟩), cursor := 14 } } := by
  refine ⟨by simp [HB.WF, fullCap], ?_, ?_, by decide⟩
  · intro o ho; cases ho; simp
  · intro o ho; cases ho; simp [ceilDiv]

end Griddle.C04
