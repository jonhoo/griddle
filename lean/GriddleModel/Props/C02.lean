/-
  C02 — Per-call resize work is bounded by a constant independent of map size.

  No hypothesis of these theorems mentions the size of the map or its history: the bounds hold
  for every state satisfying the invariant.  Instantiated at `R = 8`: a key-adding `insert` moves
  ≤ 8 elements, computes ≤ 9 hashes (≤ 10 for the raw-entry path that hashes the key twice, see
  C12), allocates ≤ 1 table; lookups, removals and in-place updates hash once, allocate nothing,
  move nothing.
-/
import GriddleModel.Lemmas.Entry
namespace Griddle.C02

/-- `insert` (new key, overwrite in the main table, or overwrite of an element still in the old
    table): moved ≤ R, hashes = 1 + moved ≤ R + 1, allocations ≤ 1; an overwrite allocates nothing;
    an overwrite in the main table moves nothing. -/
theorem insert_cost (c : Cfg) (hR : 0 < c.R) (m : Map) (e : Entry) (o : Orc) (h : Inv c.R m) :
    OkOrCap (Map.insert c m e o) (fun r =>
      r.2.cost.moved ≤ c.R ∧ r.2.cost.hashes ≤ c.R + 1 ∧ r.2.cost.hashes = 1 + r.2.cost.moved ∧
      r.2.cost.allocs ≤ 1 ∧ ((absOf m e.k).isSome → r.2.cost.allocs = 0)) :=
  (Map.insert_spec c hR m e o h).mono (fun r hs => by
    obtain ⟨_, _, _, h4, h5, h6, h7, _⟩ := hs
    exact ⟨h4, by omega, h5, h6, h7⟩)

/-- the production constant: 8 moves, 9 hashes, 1 allocation -/
theorem insert_cost_R8 (c : Cfg) (hc : c.R = 8) (m : Map) (e : Entry) (o : Orc) (h : Inv c.R m) :
    OkOrCap (Map.insert c m e o) (fun r =>
      r.2.cost.moved ≤ 8 ∧ r.2.cost.hashes ≤ 10 ∧ r.2.cost.allocs ≤ 1) :=
  (insert_cost c (by omega) m e o h).mono (fun r hs => by
    obtain ⟨h1, h2, _, h4, _⟩ := hs
    exact ⟨by omega, by omega, h4⟩)

/-- lookups: one hash, no allocation, nothing moved, state untouched -/
theorem lookup_cost {R : Nat} (m : Map) (k : Nat) (h : Inv R m) :
    (Map.get m k).cost.hashes = 1 ∧ (Map.get m k).cost.allocs = 0 ∧ (Map.get m k).cost.moved = 0 := by
  rw [(Map.get_spec m k).2]; exact ⟨rfl, rfl, rfl⟩

/-- in-place update through `get_mut`: one hash, no allocation, nothing moved -/
theorem getMut_cost {R : Nat} (m : Map) (k add : Nat) (h : Inv R m) :
    (Map.getMut m k add).2.cost.hashes = 1 ∧ (Map.getMut m k add).2.cost.allocs = 0 ∧
    (Map.getMut m k add).2.cost.moved = 0 := by
  rw [(Map.getMut_spec m k add h).2.2.2.1]; exact ⟨rfl, rfl, rfl⟩

/-- removals: one hash, no allocation, nothing moved -/
theorem remove_cost {R : Nat} (hR : 0 < R) (m : Map) (k : Nat) (o : Orc) (h : Inv R m) :
    ∃ m' out, Map.removeEntry m k o = .ok (m', out) ∧
      out.cost.hashes = 1 ∧ out.cost.allocs = 0 ∧ out.cost.moved = 0 := by
  obtain ⟨m', out, hr, _, _, _, h1, h2, h3, _⟩ := Map.removeEntry_spec hR m k o h
  exact ⟨m', out, hr, h1, h2, h3⟩

/-- `reserve` on a map that is not mid-resize moves nothing either (the proportional work is
    confined to `reserve` / `try_reserve` mid-resize, `shrink_to*`, `clone*`) -/
theorem reserve_unsplit_moves_nothing (c : Cfg) (t : Raw) (n : Nat) (perm : List Nat)
    (hlo : t.lo = none) (hnd : (keysOf t.main.ents).Nodup) :
    OkOr (Raw.tryGrow c t n perm) (fun r => r.2.2.moved = 0 ∧ r.2.2.hashes = 0 ∧ r.2.2.allocs ≤ 1) := by
  refine (tryGrow_spec c t n perm hlo hnd).mono fun ⟨t', e, cost⟩ hg => ?_
  cases e with
  | some e => obtain ⟨-, rfl⟩ := hg; exact ⟨rfl, rfl, Nat.zero_le _⟩
  | none =>
    obtain ⟨-, -, -, -, -, -, -, ha, hh, hm, -⟩ := hg
    exact ⟨hm, hh, ha⟩

/-- `VacantEntry::insert` / `RawVacantEntryMut::insert*` on the handle of a lookup that found nothing: the
    lookup's hashes, one more if the call hashes the key again, and the carry's -/
theorem vacant_insert_cost (c : Cfg) (hR : 0 < c.R) (raw rehash : Bool) (lh : Nat) (m : Map) (k kid kid' v vid add : Nat)
    (o : Orc) (h : Inv c.R m) (habs : m.find k = none) :
    OkOrCap (Map.entryChain c raw lh m k kid [.vacInsert rehash kid' v vid add] o) (fun r =>
      r.2.cost.hashes ≤ c.R + lh + (if rehash then 1 else 0) ∧ r.2.cost.moved ≤ c.R ∧ r.2.cost.allocs ≤ 1) := by
  rw [entryChain_eq]
  unfold Map.lookupState
  rw [habs]
  unfold Map.chainLoop Map.chainLoop Map.chainStep
  dsimp only
  have hs := Raw.insert_spec c hR m
    { k := k, kid := (if raw then kid' else (if raw then none else some kid).getD kid'), v := v + add, vid := vid }
    (o.digit (c.R + 2)).hits (o.digit (c.R + 2)).perm h ((find_none_iff m k).1 habs)
  refine hs.elim (fun _ => id) fun r hr => ?_
  obtain ⟨-, -, h3, h4, h5, -⟩ := hr
  obtain ⟨m', _, cost⟩ := r
  refine .ok ?_
  dsimp only at h3 h4 h5 ⊢
  simp only [Cost.add_hashes, Cost.add_moved, Cost.add_allocs]
  generalize (if rehash = true then 1 else 0) = x
  omega

/-- The costliest key-adding path: `raw_entry_mut().from_key(&k)` (one hash) on an absent key,
    then `RawVacantEntryMut::insert(k, v)` (hashes the key again), plus the carry: at most
    `R + 2` hash computations, `R` moves, one allocation — 10 / 8 / 1 for `R = 8`. -/
theorem raw_entry_insert_cost (c : Cfg) (hR : 0 < c.R) (m : Map) (k kid v vid add : Nat) (o : Orc)
    (h : Inv c.R m) (habs : m.find k = none) :
    OkOrCap (Map.entryChain c true 1 m k kid [.vacInsert true kid v vid add] o) (fun r =>
      r.2.cost.hashes ≤ c.R + 2 ∧ r.2.cost.moved ≤ c.R ∧ r.2.cost.allocs ≤ 1) :=
  vacant_insert_cost c hR true true 1 m k kid kid v vid add o h habs

/-- `entry(k).or_insert(v)` / `VacantEntry::insert` on an absent key: the key is hashed once
    (the entry keeps the hash), so at most `R + 1` hashes. -/
theorem entry_insert_cost (c : Cfg) (hR : 0 < c.R) (m : Map) (k kid v vid add : Nat) (o : Orc)
    (h : Inv c.R m) (habs : m.find k = none) :
    OkOrCap (Map.entryChain c false 1 m k kid [.vacInsert false 0 v vid add] o) (fun r =>
      r.2.cost.hashes ≤ c.R + 1 ∧ r.2.cost.moved ≤ c.R ∧ r.2.cost.allocs ≤ 1) :=
  vacant_insert_cost c hR false false 1 m k kid 0 v vid add o h habs

end Griddle.C02
