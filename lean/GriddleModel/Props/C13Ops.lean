/-
  C13 (continued) — single-set operations (`SetOps` in `GriddleModel/Set.lean`).

  A set is observed through membership AND through the object that stands for each value
  (`reprOf : value → Option object`).  From any state with the invariant, any oracle:

    * `set_insert_spec`  — `insert(v)` returns `true` iff `v` was absent; afterwards `v` is a member; a value that
      was already there KEEPS its representative (the argument is dropped); nobody else is touched;
    * `set_remove_spec`  — `remove` / `take`: the value is gone, reported iff it was there, `take` hands back the
      stored object, nobody else is touched;
    * `set_replace_inv`, `set_get_or_insert_inv` — `replace` and `get_or_insert*` keep the invariant (one element
      per value), report occupied iff the value was there, and conserve every object
      (`C06.ledger_entry_chain` instantiated);
    * `set_get_spec` — `get` / `contains` answer by the reference.
-/
import GriddleModel.Set
import GriddleModel.Props.C12
namespace Griddle.C13

open SetOps

/-- the reference view of a set: which object stands for value `k` -/
def reprOf (m : Map) (k : Nat) : Option Nat := (absOf m k).map (·.kid)

theorem set_insert_spec (c : Cfg) (hR : 0 < c.R) (m : Map) (k kid : Nat) (o : Orc) (h : Inv c.R m) :
    OkOrCap (SetOps.insert c m k kid o) (fun r =>
      Inv c.R r.1 ∧
      (r.2.ret = .optV none ↔ reprOf m k = none) ∧
      reprOf r.1 k = some ((reprOf m k).getD kid) ∧
      (∀ k', k' ≠ k → reprOf r.1 k' = reprOf m k')) := by
  refine (Map.insert_spec c hR m (unitE k kid) o h).mono fun r hs => ?_
  obtain ⟨hi, ha, hret, -⟩ := hs
  rw [show (unitE k kid).k = k from rfl] at ha hret
  unfold reprOf
  refine ⟨hi, ?_, ?_, fun k' hne => ?_⟩
  · rw [hret]
    cases absOf m k <;> simp
  · rw [ha k]
    cases hm : absOf m k with
    | none => simp [specIns, unitE]
    | some e => simp [specUpd, hm]
  · rw [ha k']
    cases hm : absOf m k with
    | none => simp [specIns, unitE, hne]
    | some e => simp [specUpd, hne]

theorem set_remove_spec {R : Nat} (hR : 0 < R) (m : Map) (k : Nat) (o : Orc) (h : Inv R m) :
    ∃ m' out, SetOps.remove m k o = .ok (m', out) ∧ Inv R m' ∧
      reprOf m' k = none ∧ (∀ k', k' ≠ k → reprOf m' k' = reprOf m k') ∧
      (out.ret = .optKV none ↔ reprOf m k = none) ∧
      (∀ e, absOf m k = some e → out.returned = e.ids) := by
  obtain ⟨m', out, hr, hi, ha, hret, _, _, _, _, hretd, _⟩ := Map.removeEntry_spec hR m k o h
  refine ⟨m', out, hr, hi, ?_, ?_, ?_, ?_⟩
  · unfold reprOf; rw [ha k]; simp [specDel]
  · intro k' hne; unfold reprOf; rw [ha k']; simp [specDel, hne]
  · rw [hret]; unfold reprOf; cases absOf m k <;> simp
  · intro e he; rw [hretd, he]

/-- `remove` / `take` of the LAST element parked in the old table release that table in the same call (C03 for sets:
    this is what distinguishes them from `retain`) -/
theorem set_remove_releases {R : Nat} (hR : 0 < R) (m : Map) (k : Nat) (o : Orc) (h : Inv R m)
    (ol : Old) (hlo : m.lo = some ol) (hin : ∃ x, x ∈ ol.ents ∧ x.k = k) (hlast : ol.ents.length = 1) :
    ∃ m' out, SetOps.remove m k o = .ok (m', out) ∧ m'.lo = none ∧ out.cost.frees = 1 := by
  obtain ⟨m', out, hr, _, _, _, _, _, _, _, _, hrel⟩ := Map.removeEntry_spec hR m k o h
  exact ⟨m', out, hr, (hrel ol hlo hin hlast).1, (hrel ol hlo hin hlast).2⟩

theorem set_get_spec {R : Nat} (m : Map) (k : Nat) (h : Inv R m) :
    (SetOps.get m k).ret = .optKV (absOf m k) := by
  unfold SetOps.get Map.get
  simp only
  rw [find_eq_abs h k]

/-- `replace(v)`: the chain it runs is applicable, so the invariant — one element per value — holds afterwards, the
    entry was occupied iff the value was there, and every object is stored, handed back or dropped exactly once -/
theorem set_replace_inv (c : Cfg) (hR : 0 < c.R) (m : Map) (k kid : Nat) (o : Orc) (h : Inv c.R m) :
    OkOrCap (SetOps.replace c m k kid o) (fun r =>
      Inv c.R r.1 ∧ (keysOf r.1.ents).Nodup ∧ ∃ seen, r.2.ret = .chain (absOf m k).isSome seen) := by
  unfold SetOps.replace
  cases hf : m.find k <;>
    exact C12.one_element_per_key c hR false 1 m k kid _ o h
      (C12.chainApplicable_single (by unfold Map.lookupState; rw [hf]; trivial))

theorem set_get_or_insert_inv (c : Cfg) (hR : 0 < c.R) (m : Map) (k kid : Nat) (lzy : Bool) (o : Orc) (h : Inv c.R m) :
    OkOrCap (SetOps.getOrInsert c m k kid lzy o) (fun r =>
      Inv c.R r.1 ∧ (keysOf r.1.ents).Nodup ∧ ∃ seen, r.2.ret = .chain (absOf m k).isSome seen) :=
  C12.one_element_per_key c hR true 1 m k 0 _ o h
    (C12.chainApplicable_single (by unfold Map.lookupState; cases m.find k <;> trivial))

/-- **`replace(v)` on a value that is there** exchanges its representative — the stored object is handed back, the
    argument takes its place — and touches nothing else: both tables, every counter and every other element stay -/
theorem set_replace_occupied (c : Cfg) (m : Map) (k kid : Nat) (o : Orc) {R : Nat} (h : Inv R m)
    {loc : Loc} {e : Entry} (hf : m.find k = some (loc, e)) :
    ∃ out, SetOps.replace c m k kid o = .ok (Map.setKidAt m loc kid, out) ∧
      out.returned = [e.kid] ∧ out.cost.dropped = [] ∧ out.cost.moved = 0 ∧ out.cost.allocs = 0 ∧
      Inv R (Map.setKidAt m loc kid) ∧ SetOps.repr (Map.setKidAt m loc kid) k = some kid := by
  obtain ⟨hi, hf'⟩ := setKidAt_spec h hf kid
  unfold SetOps.replace
  rw [hf]
  dsimp only
  rw [entryChain_eq]
  unfold Map.lookupState
  rw [hf]
  unfold Map.chainLoop Map.chainLoop Map.chainStep
  dsimp only
  rw [valueAt_of_find hf]
  exact ⟨_, rfl, rfl, List.append_nil _, rfl, rfl, hi, by unfold SetOps.repr; rw [hf']; rfl⟩

/-- non-vacuity: `insert` of a value that is there keeps object 10 and drops the argument 20; `replace` stores 30
    and hands 10 back; `get_or_insert` of an absent value stores its argument -/
example :
    let m : Map := { main := { buckets := 8, ents := [unitE 1 10], gl := 6 }, lo := none }
    ((match SetOps.insert { R := 8 } m 1 20 {} with
      | .ok (m', out) => (SetOps.repr m' 1, out.cost.dropped) | .error _ => (none, [])),
     (match SetOps.replace { R := 8 } m 1 30 {} with
      | .ok (m', out) => (SetOps.repr m' 1, out.returned) | .error _ => (none, [])),
     (match SetOps.getOrInsert { R := 8 } m 2 40 false {} with
      | .ok (m', _) => (SetOps.repr m' 1, SetOps.repr m' 2) | .error _ => (none, none)))
    = ((some 10, [20]), (some 30, [10]), (some 10, some 40)) := by
  intros; rfl

end Griddle.C13
