/-
  C07 — A panic in user code never corrupts the map.     (PARTIAL)

  On the model of unwinding (`GriddleModel.Panic`), for every state satisfying the invariant, every callback index
  and every oracle; the whole calls are in `C07Calls.lean`.  Lookups are pure in the model: a `Hash` / `Eq` panic
  there changes nothing.
  NOT modelled (rests on the fault-injection runs on the real crate): hashbrown's own unwind
  guards inside `shrink_to` / `reserve` (`resize_inner`), `clone` and `clone_from`.
-/
import GriddleModel.Panic
import GriddleModel.Lemmas.Retain
import GriddleModel.Lemmas.Steps
namespace Griddle.C07

def optList (o : Option Entry) : List Entry := match o with | some e => [e] | none => []
def oldList (o : Option Old) : List Entry := match o with | some o' => o'.ents | none => []

/-- what the unwinding leaves: a well-formed main table that received `moved` elements for at
    most `moved` units of headroom, an old table still in agreement with its cursor and shorter by
    `moved` (+1 if an element was lost), and nothing else lost or duplicated -/
def FusedPost (main : HB) (o : Old) (n : Nat) (r : HB × Option Old × Option Entry) : Prop :=
  r.1.buckets = main.buckets ∧ r.1.WF ∧
  main.ents.length ≤ r.1.ents.length ∧
  main.gl ≤ r.1.gl + (r.1.ents.length - main.ents.length) ∧
  r.1.ents.length - main.ents.length ≤ min n o.ents.length ∧
  (∀ o', r.2.1 = some o' → o'.cursor = o'.ents.length ∧
      o'.ents.length + (r.1.ents.length - main.ents.length) + (if r.2.2.isSome then 1 else 0) = o.ents.length) ∧
  (r.2.1 = none → r.2.2 = none) ∧
  (r.2.2 = none → (o.ents.length ≤ n → r.2.1 = none) ∧
      (n < o.ents.length → r.1.ents.length - main.ents.length = n)) ∧
  (optList r.2.2 ++ (r.1.ents ++ oldList r.2.1)).Perm (main.ents ++ o.ents)

/-- The fused loop is `Raw.carryLoop` cut short: if the fuse fires (there is a `fuse`-th relocation) it is the plain
    loop run for `fuse` steps, after which the next element is popped and lost; otherwise it is the plain loop.
    `cost` is arbitrary: the fused loop keeps no account, and the tables the plain loop returns do not depend on the
    account it starts from. -/
theorem carryLoopFused_eq (n : Nat) : ∀ (main : HB) (o : Old) (fuse hits : Nat) (cost : Cost),
    o.cursor = o.ents.length →
    carryLoopFused main o n fuse hits =
      if fuse < min n o.ents.length then
        match Raw.carryLoop main o fuse hits cost with
        | .error f => .error f
        | .ok r => .ok (r.1, some { o with ents := o.ents.drop (fuse + 1), cursor := o.ents.length - (fuse + 1) },
                        o.ents[fuse]?)
      else
        match Raw.carryLoop main o n hits cost with
        | .error f => .error f
        | .ok r => .ok (r.1, r.2.1, none) := by
  induction n with
  | zero =>
    intro main o fuse hits cost _
    rw [Nat.zero_min, if_neg (Nat.not_lt_zero _)]
    unfold carryLoopFused Raw.carryLoop
    split <;> rfl
  | succ n ih =>
    rintro main ⟨b, ents, cur⟩ fuse hits cost (rfl : cur = ents.length)
    cases ents with
    | nil =>
      rw [List.length_nil, Nat.min_zero, if_neg (Nat.not_lt_zero _)]
      rfl
    | cons e rest =>
      cases fuse with
      | zero =>
        rw [if_pos (by simp)]
        rfl
      | succ fuse =>
        unfold carryLoopFused
        rw [Raw.carryLoop.eq_def main _ (fuse + 1), Raw.carryLoop.eq_def main _ (n + 1)]
        simp only [List.length_cons, Nat.add_one_ne_zero, if_false, Nat.add_lt_add_iff_right, Nat.add_min_add_right,
          Nat.add_sub_cancel, List.drop_succ_cons, List.getElem?_cons_succ, Nat.add_sub_add_right]
        cases main.insertNoGrow e (decide (0 < hits)) with
        | error f => simp only [ite_self]
        | ok main' => exact ih main' ⟨b, rest, rest.length⟩ fuse (hits - 1) _ rfl

theorem carryLoopFused_post (n : Nat) (main : HB) (o : Old) (fuse hits : Nat)
    (hwf : main.WF) (hag : o.cursor = o.ents.length) (hroom : min n o.ents.length ≤ main.gl) :
    OkOr (carryLoopFused main o n fuse hits) (fun r =>
      FusedPost main o n r ∧ ∀ x, r.2.2 = some x → x ∈ o.ents) := by
  rw [carryLoopFused_eq n main o fuse hits {} hag]
  by_cases hf : fuse < min n o.ents.length
  · have hlt : fuse < o.ents.length := Nat.lt_of_lt_of_le hf (Nat.min_le_right ..)
    rw [if_pos hf]
    refine (carryLoop_spec fuse main o hits {} hwf hag
      (Nat.le_trans (Nat.le_trans (Nat.min_le_left ..) (Nat.le_of_lt hf)) hroom)).elim (fun _ => id) fun q hq => .ok ?_
    rw [Nat.min_eq_left (Nat.le_of_lt hlt), List.drop_eq_getElem_cons hlt] at hq
    obtain ⟨h1, h2, -, h4, h5, h6, -⟩ := hq
    have hmv : q.1.ents.length - main.ents.length = fuse := by rw [h6, Nat.add_sub_cancel_left]
    unfold FusedPost
    simp only [List.getElem?_eq_getElem hlt, hmv]
    refine ⟨⟨h1, h2, h6 ▸ Nat.le_add_right .., h4, Nat.le_of_lt hf, ?_, nofun, nofun, ?_⟩, ?_⟩
    · rintro _ ⟨⟩
      refine ⟨List.length_drop.symm, ?_⟩
      rw [List.length_drop]
      exact Nat.sub_add_cancel hlt
    · exact (List.perm_middle.symm.trans h5 :)
    · rintro _ ⟨⟩
      exact List.getElem_mem hlt
  · rw [if_neg hf]
    refine (carryLoop_spec n main o hits {} hwf hag hroom).elim (fun _ => id) fun q hq => .ok ?_
    obtain ⟨h1, h2, -, h4, h5, h6, h7, h8, -⟩ := hq
    have hmv : q.1.ents.length - main.ents.length = min n o.ents.length := by rw [h6, Nat.add_sub_cancel_left]
    unfold FusedPost
    dsimp only
    rw [hmv]
    refine ⟨⟨h1, h2, h6 ▸ Nat.le_add_right .., h4, Nat.le_refl _, ?_, fun _ => rfl,
      fun _ => ⟨h7, fun hlt => Nat.min_eq_left (Nat.le_of_lt hlt)⟩, ?_⟩, nofun⟩
    · rcases Nat.lt_or_ge n o.ents.length with hlt | hge
      · rw [h8 hlt, Nat.min_eq_left (Nat.le_of_lt hlt)]
        rintro _ ⟨⟩
        refine ⟨List.length_drop.symm, ?_⟩
        rw [List.length_drop]
        exact Nat.sub_add_cancel (Nat.le_of_lt hlt)
      · rw [h7 hge]; nofun
    · rcases Nat.lt_or_ge n o.ents.length with hlt | hge
      · rw [h8 hlt]; exact h5
      · rw [h7 hge]; rw [List.drop_eq_nil_of_le hge] at h5; exact h5

theorem carryLoopFused_spec (n : Nat) : ∀ (main : HB) (o : Old) (fuse hits : Nat),
    main.WF → o.cursor = o.ents.length → min n o.ents.length ≤ main.gl →
    OkOr (carryLoopFused main o n fuse hits) (FusedPost main o n) :=
  fun main o fuse hits hwf hag hroom =>
    (carryLoopFused_post n main o fuse hits hwf hag hroom).mono fun _ h => h.1

/-- A fused `carry` on a state that has used at most one unit of the headroom (as `carry_spec`). -/
theorem carryFused_spec (c : Cfg) (hR : 0 < c.R) (t : Raw) (fuse hits : Nat)
    (hwf : t.main.WF) (hag : ∀ o, t.lo = some o → o.cursor = o.ents.length)
    (hhead : ∀ o, t.lo = some o → o.ents.length + ceilDiv o.ents.length c.R ≤ t.main.gl + 1)
    (hnd : (keysOf t.ents).Nodup) :
    OkOr (Raw.carryFused c t fuse hits) (fun r =>
      Inv c.R r.1 ∧ (optList r.2 ++ r.1.ents).Perm t.ents ∧
      r.1.main.buckets = t.main.buckets ∧ ∀ x, r.2 = some x → x ∈ oldEnts t) := by
  unfold Raw.carryFused
  cases hlo : t.lo with
  | none =>
    refine .ok ⟨⟨hwf, hag, fun o ho => ?_, hnd⟩, .refl _, rfl, nofun⟩
    rw [hlo] at ho; cases ho
  | some o =>
    have hh := hhead o hlo
    dsimp only
    refine (carryLoopFused_post c.R t.main o fuse hits hwf (hag o hlo) (min_le_of_headroom hR hh)).elim
      (fun _ => id) fun r hq => .ok ?_
    obtain ⟨⟨m, lo', lost⟩, ⟨h1, h2, -, h4, -, h6, -, h8, h9⟩, hl⟩ := r, hq
    dsimp only at h1 h2 h4 h6 h8 h9 hl ⊢
    have hperm : (optList lost ++ Raw.ents { main := m, lo := lo' }).Perm t.ents := by
      unfold Raw.ents; rw [hlo]; exact h9
    refine ⟨⟨h2, fun o' ho' => (h6 o' ho').1, fun o' ho' => ?_, ?_⟩, hperm, h1, ?_⟩
    · -- `moved` elements went into the main table, each for at most one unit of headroom; a lost one left for none
      refine headroom_after_moves hR hh h4 (h6 o' ho').2 ?_
      cases lost with
      | some e => exact fun h => absurd h (Nat.succ_ne_zero 0)
      | none =>
        obtain ⟨b1, b2⟩ := h8 rfl
        rcases Nat.lt_or_ge c.R o.ents.length with hlt | hge
        · have a2 := (h6 o' ho').2
          rw [b2 hlt] at a2 ⊢
          exact fun _ => ⟨rfl, by simp only [Option.isSome_none, Bool.false_eq_true, if_false] at a2; omega⟩
        · rw [b1 hge] at ho'; cases ho'
    · exact ((keysOf_perm hperm).nodup_iff.2 hnd).sublist ((List.sublist_append_right ..).map _)
    · simpa only [oldEnts, hlo] using hl

/-- **A `Hash` panic while `carry` relocates elements** (at any call index, any oracle): the map
    still satisfies the invariant, and exactly the element being relocated is lost. -/
theorem carry_hash_panic_safe (c : Cfg) (hR : 0 < c.R) (t : Raw) (fuse hits : Nat)
    (hwf : t.main.WF) (hag : ∀ o, t.lo = some o → o.cursor = o.ents.length)
    (hhead : ∀ o, t.lo = some o → o.ents.length + ceilDiv o.ents.length c.R ≤ t.main.gl + 1)
    (hnd : (keysOf t.ents).Nodup) :
    OkOr (Raw.carryFused c t fuse hits) (fun r =>
      Inv c.R r.1 ∧ (optList r.2 ++ r.1.ents).Perm t.ents ∧
      r.1.main.buckets = t.main.buckets) :=
  (carryFused_spec c hR t fuse hits hwf hag hhead hnd).mono fun _ h => ⟨h.1, h.2.1, h.2.2.1⟩

/-- from a state satisfying the invariant (the `carry` of an overwriting `insert`, or any `carry`) -/
theorem carry_hash_panic_safe_inv (c : Cfg) (hR : 0 < c.R) (t : Raw) (fuse hits : Nat) (h : Inv c.R t) :
    OkOr (Raw.carryFused c t fuse hits) (fun r =>
      Inv c.R r.1 ∧ (optList r.2 ++ r.1.ents).Perm t.ents ∧ r.1.main.buckets = t.main.buckets) :=
  carry_hash_panic_safe c hR t fuse hits h.wf h.agree
    (fun o ho => Nat.le_succ_of_le (h.head o ho).1) h.nodup

/-- griddle's `insert_no_grow` looks whether there is an old table before it calls `carry`, which looks again. -/
theorem Raw.insertNoGrowFused_eq (c : Cfg) (t : Raw) (e : Entry) (fuse hits : Nat) :
    Raw.insertNoGrowFused c t e fuse hits =
      match t.main.insertNoGrow e (decide (0 < hits)) with
      | .error f => .error f
      | .ok m => Raw.carryFused c { t with main := m } fuse (hits - 1) := by
  unfold Raw.insertNoGrowFused Raw.carryFused
  cases t.main.insertNoGrow e (decide (0 < hits)) with
  | error f => rfl
  | ok m => cases hlo : t.lo <;> rfl

theorem Raw.insertNoGrowFused_spec (c : Cfg) (hR : 0 < c.R) (t : Raw) (e : Entry) (fuse hits : Nat)
    (h : Inv c.R t) (hroom : 0 < t.main.gl) (hfresh : e.k ∉ keysOf t.ents) :
    OkOr (Raw.insertNoGrowFused c t e fuse hits) (fun r =>
      Inv c.R r.1 ∧ (optList r.2 ++ r.1.ents).Perm (e :: t.ents) ∧ ∀ x, r.2 = some x → x ∈ oldEnts t) := by
  rw [Raw.insertNoGrowFused_eq]
  refine (HB.insertNoGrow_spec t.main e (decide (0 < hits)) h.wf hroom).elim (fun _ => id) fun m hm => ?_
  -- the fused `carry` runs on the state `Inv.spent` describes; what it loses comes from the old table, so is not `e`
  obtain ⟨hents, hhd, hnd⟩ := h.spent hfresh hm
  exact hents ▸ (carryFused_spec c hR { t with main := m } fuse (hits - 1) hm.2.2.1 h.agree hhd hnd).mono
    fun r hr => ⟨hr.1, hr.2.1, hr.2.2.2⟩

/-- **A `Hash` panic inside a key-adding `insert`** (after the new element went in, while `carry`
    relocates): the new element stays, the invariant holds, at most the element being relocated is
    lost. -/
theorem insert_hash_panic_safe (c : Cfg) (hR : 0 < c.R) (t : Raw) (e : Entry) (fuse hits : Nat)
    (h : Inv c.R t) (hroom : 0 < t.main.gl) (hfresh : e.k ∉ keysOf t.ents) :
    OkOr (match t.main.insertNoGrow e (decide (0 < hits)) with
          | .error f => .error f
          | .ok m => Raw.carryFused c { t with main := m } fuse (hits - 1)) (fun r =>
      Inv c.R r.1 ∧ (optList r.2 ++ r.1.ents).Perm (e :: t.ents)) :=
  Raw.insertNoGrowFused_eq c t e fuse hits ▸
    (Raw.insertNoGrowFused_spec c hR t e fuse hits h hroom hfresh).mono fun _ hr => ⟨hr.1, hr.2.1⟩

theorem placed_prefix {nMain : Nat} {m : Raw} : ∀ (pre suf : List Nat) (i : Nat),
    Placed nMain i (pre ++ suf) m → Placed nMain i pre m :=
  fun pre suf i h => (Placed.of_append pre suf i h).1

/-- **A closure panic inside `retain`** at its `fuse`-th call: the visits before it completed;
    the invariant holds; the state denotes the map with exactly the rejected visited elements
    removed — nothing else is lost. -/
theorem retain_closure_panic_safe {R : Nat} (hR : 0 < R) (m : Map) (p : Pred) (fuse : Nat) (o : Orc) (h : Inv R m) :
    OkOr (Map.retainFused m p fuse o) (fun r =>
      Inv R r.1 ∧ absOf r.1 = specRetain p (absOf m) (o.calls.take fuse)) := by
  unfold Map.retainFused
  refine OkOr.of_iterOrderOk h fun hpl hnd _ => ?_
  rw [← List.take_append_drop fuse o.calls] at hpl
  obtain ⟨m', c', hr, hi, ha, -⟩ := retainLoop_spec hR p m.main.ents.length (o.calls.take fuse) 0 m o.empt {} h
    (hnd.sublist (List.take_sublist _ _)) (placed_prefix _ _ 0 hpl)
  rw [hr]
  exact ⟨hi, ha⟩

theorem replaceFused_spec {R : Nat} (m : Map) (k : Nat) (o : Orc) (h : Inv R m) :
    ∃ m', Map.replaceFused m k o = .ok (m', absOf m k) ∧ Inv R m' ∧
      (optList (absOf m k) ++ m'.ents).Perm m.ents ∧ m'.ents = m.ents.filter (fun x => x.k != k) := by
  unfold Map.replaceFused
  rcases find_abs_cases m k with ⟨hf, ha, hfresh⟩ | ⟨loc, e, hf, ha⟩
  · rw [hf, ha]; exact ⟨m, rfl, h, .refl _, (filter_key_absent hfresh).symm⟩
  · rw [hf, ha]
    simp only [(filterAt_routes hf _).1]
    exact ⟨_, rfl, (filterAt_spec h hf _).1, filterAt_perm h hf _, filterAt_ents h hf _⟩

/-- **A closure panic inside `replace_entry_with`**: the element handed to the closure is lost,
    nothing else; the invariant (incl. cursor agreement) holds. -/
theorem replace_closure_panic_safe {R : Nat} (hR : 0 < R) (m : Map) (k : Nat) (o : Orc) (h : Inv R m) :
    ∃ m' lost, Map.replaceFused m k o = .ok (m', lost) ∧ Inv R m' ∧
      (optList lost ++ m'.ents).Perm m.ents ∧ (lost = none ↔ absOf m k = none) :=
  let ⟨m', hr, hi, hp, _⟩ := replaceFused_spec m k o h
  ⟨m', absOf m k, hr, hi, hp, Iff.rfl⟩

/-- **After any of these caught panics, later operations behave normally**: the state satisfies the
    invariant, so every later history refines the reference map from it (`C01.run_refines`). -/
theorem later_ops_normal (c : Cfg) (hR : 0 < c.R) (orcs : Nat → Orc) (ops : List Op) (m : Map)
    (h : Inv c.R m) (hpre : runPre c m ops orcs) :
    OkOrCap (run c m ops orcs) (fun r =>
      Inv c.R r.1 ∧ (∀ k, absOf r.1 k = (specRun (absOf m) ops).1 k)) :=
  (run_refines c hR orcs ops m h hpre).mono (fun _ hs => ⟨hs.1, hs.2.1⟩)

/-- non-vacuity: the fuse does fire and an element is lost -/
example :
    let t : Raw := { main := { buckets := 16, ents := [], gl := 14 },
                     lo := some { buckets := 4, ents := [⟨1, 1, 1, 2⟩, ⟨2, 3, 1, 4⟩, ⟨3, 5, 1, 6⟩], cursor := 3 } }
    (match Raw.carryFused { R := 8 } t 1 0 with
     | .ok (t', lost) => (t'.main.ents.map (·.k), (oldList t'.lo).map (·.k), lost.map (·.k))
     | .error _ => ([], [], none)) = ([1], [3], some 2) := by
  intros; rfl

end Griddle.C07
