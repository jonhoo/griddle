/-
  C09 — retain and drain_filter partition the map exactly by the predicate.

  The closure is `|k, v| { *v += add; test k }` for an arbitrary decidable `test` over keys
  (a finite set, its complement, or a residue class) and arbitrary `add`.  Quantified over every
  state satisfying the invariant (every resize phase), every visiting order of the shape the real
  iterator has, every oracle, every early-drop point `take`.
-/
import GriddleModel.Lemmas.Retain
namespace Griddle.C09

/-- `retain(f)`: `f` called exactly once per element; kept = exactly those with `f = true`, with
    the mutation; invariant kept, incl. when the call empties the old table (it stays parked). -/
theorem retain_partitions {R : Nat} (hR : 0 < R) (m : Map) (p : Pred) (o : Orc) (h : Inv R m) :
    OkOr (Map.retain m p o) (fun r =>
      Inv R r.1 ∧ o.calls.Nodup ∧ (∀ k, k ∈ o.calls ↔ k ∈ keysOf m.ents) ∧
      (∀ k, absOf r.1 k = if p.test k then (absOf m k).map (bumpE k p.add) else none) ∧
      r.1.lo.isSome = m.lo.isSome) :=
  (Map.retain_spec m p o h).mono fun _ hs => ⟨hs.1, hs.2.1, hs.2.2.1, hs.2.2.2.1, hs.2.2.2.2.1⟩

/-- `drain_filter(f)`, pulled `take` times then dropped: yields matching elements only, each
    once, at most `take`; afterwards NO matching element remains and every other one is there
    (with the mutation). -/
theorem drain_filter_dropped {R : Nat} (hR : 0 < R) (m : Map) (p : Pred) (take : Nat) (o : Orc) (h : Inv R m) :
    OkOr (Map.drainFilter m p take false o) (fun r =>
      Inv R r.1 ∧ (∀ k, absOf r.1 k = if p.test k then none else (absOf m k).map (bumpE k p.add)) ∧
      ∃ pre rest, o.calls = pre ++ rest ∧ r.2.ret = .ents (yieldOf p (absOf m) pre) ∧
        (yieldOf p (absOf m) pre).length ≤ take) := by
  have hs := Map.drainFilter_spec hR m p take false o h
  refine hs.mono fun r hr => ?_
  obtain ⟨hi, pre, rest, h1, h2, h3, -, h5, -⟩ := hr
  exact ⟨hi, h5 rfl, pre, rest, h1, h2, h3⟩

/-- `drain_filter(f)`, pulled `take` times then forgotten: only the yielded elements are gone. -/
theorem drain_filter_forgotten {R : Nat} (hR : 0 < R) (m : Map) (p : Pred) (take : Nat) (o : Orc) (h : Inv R m) :
    OkOr (Map.drainFilter m p take true o) (fun r =>
      Inv R r.1 ∧ ∃ pre rest, o.calls = pre ++ rest ∧ r.2.ret = .ents (yieldOf p (absOf m) pre) ∧
        absOf r.1 = specDrain p (absOf m) pre) := by
  have hs := Map.drainFilter_spec hR m p take true o h
  refine hs.mono fun r hr => ?_
  obtain ⟨hi, pre, rest, h1, h2, -, h4, -⟩ := hr
  exact ⟨hi, pre, rest, h1, h2, h4 rfl⟩

/-- everything yielded matches the predicate and was stored (with the mutation applied) -/
theorem yielded_match (p : Pred) (a : Nat → Option Entry) (ks : List Nat) :
    ∀ e ∈ yieldOf p a ks, ∃ k ∈ ks, p.test k = true ∧ (a k).map (bumpE k p.add) = some e := by
  intro e he
  unfold yieldOf at he
  obtain ⟨k, hk, hke⟩ := List.mem_filterMap.1 he
  cases ht : p.test k with
  | false => simp [ht] at hke
  | true => simp only [ht, if_true] at hke; exact ⟨k, hk, ht, hke⟩

/-- non-vacuity: retain that empties the old table of a mid-resize map keeps the table parked -/
example :
    let m : Raw := { main := { buckets := 16, ents := [⟨1, 0, 5, 0⟩], gl := 9 },
                     lo := some { buckets := 4, ents := [⟨2, 0, 7, 0⟩, ⟨4, 0, 8, 0⟩], cursor := 2 } }
    (Map.retain m { useSet := true, set := [2, 4], neg := true } { calls := [1, 2, 4] }).toOption.map
      (fun r => (r.1.ents.map (·.k), r.1.lo.map (·.ents.length))) = some ([1], some 0) := by
  intros; rfl

end Griddle.C09
