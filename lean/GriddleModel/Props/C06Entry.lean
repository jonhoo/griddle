/-
  C06 (continued) — the object ledger of `entry(k)…` / `raw_entry_mut().from_*(k)…` chains of any
  depth: the objects stored before the call, the key object passed to `entry`, and the objects the
  caller creates for the steps are afterwards exactly: stored, handed back, or dropped (the handle
  itself is dropped at the end of the call, with whatever key object it still carries).
-/
import GriddleModel.Props.C12
namespace Griddle.C06

open Map

/-- the handle a lookup produces is well-formed: a raw handle carries no key, `entry(k)`'s does -/
theorem lookup_handle_wf (m : Map) (k kid : Nat) (raw : Bool) : ESWF raw (lookupState raw m k kid) := by
  unfold lookupState
  cases m.find k with
  | none => exact ESWF_vac raw kid
  | some p => exact ESWF_occ raw p.1 kid

/-- **The whole entry call conserves every object**: stored ⊎ handed back ⊎ dropped afterwards =
    stored before ⊎ the key object passed to `entry` (none for the raw API) ⊎ the objects created
    for the steps. -/
theorem ledger_entry_chain (c : Cfg) (hR : 0 < c.R) (raw : Bool) (lh : Nat) (m : Map) (k kid : Nat)
    (steps : List EStep) (o : Orc) (h : Inv c.R m)
    (happ : C12.chainApplicable c raw k steps m (lookupState raw m k kid) { cost := { hashes := lh } } o) :
    OkOrCap (entryChain c raw lh m k kid steps o) (fun r =>
      (idsOf r.1.ents ++ r.2.returned ++ r.2.cost.dropped).Perm
        (idsOf m.ents ++ (if raw then [] else [kid]) ++
          chainIn c raw k steps m (lookupState raw m k kid) { cost := { hashes := lh } } o)) := by
  rw [entryChain_eq]
  have hs := chain_full c hR raw k steps o m _ { cost := { hashes := lh } } h (C12.lookup_handle_ok m k kid raw) happ
  refine hs.elim (fun _ => id) fun ⟨m', st, acc⟩ hp => .ok ?_
  have hl := (hp.2.2 (lookup_handle_wf m k kid raw)).2
  -- the handle a lookup yields holds the key passed to `entry` (none for the raw API), and nothing else is outside the map
  have h0 : restOf (lookupState raw m k kid) { cost := { hashes := lh } } = ms (if raw then [] else [kid]) := by
    have : heldIds (lookupState raw m k kid) = if raw then [] else [kid] := by
      unfold lookupState
      cases m.find k <;> cases raw <;> rfl
    rw [restOf, this, ms_nil, zero_add, zero_add]
  rw [h0, restOf] at hl
  dsimp only at hl ⊢
  rw [ms_perm, Cost.add_dropped, ms_append, ms_append, ms_append, ms_append, ms_append, add_assoc,
    ← add_assoc (ms acc.returned), add_assoc (ms (idsOf m.ents))]
  exact hl

/-- non-vacuity: `entry(7).or_insert(v)` on a map without key 7 stores the key passed to `entry` and
    the value created for the step; nothing is dropped or handed back -/
example :
    let m : Map := { main := { buckets := 4, ents := [⟨1, 10, 5, 11⟩], gl := 2 }, lo := none }
    (match entryChain { R := 8 } false 1 m 7 20 [.orInsert false 0 9 21 0] {} with
     | .ok (m', out) => (idsOf m'.ents, out.returned, out.cost.dropped)
     | .error _ => ([], [], [])) = ([20, 21, 10, 11], [], []) := by
  intros; rfl

end Griddle.C06
