/-
  C12 — Entry and raw-entry handles stay coherent with the map (`HandleOK`, `Lemmas/Entry.lean`).

  For both API flavours (`raw`), every resize phase, every location of the key (absent / main table / old table near
  or far from the cursor — the location is universally quantified) and every oracle.
-/
import GriddleModel.Lemmas.Entry
namespace Griddle.C12
open Map

/-- a lookup reports Occupied exactly when the key is present -/
theorem lookup_occupied_iff {R : Nat} (m : Map) (k : Nat) (h : Inv R m) :
    (m.find k).isSome = (absOf m k).isSome := by
  rw [← find_eq_abs h k]; cases m.find k <;> rfl

/-- the handle a lookup produces is coherent -/
theorem lookup_handle_ok (m : Map) (k kid : Nat) (raw : Bool) :
    HandleOK m k (lookupState raw m k kid) := by
  unfold lookupState
  cases hf : m.find k with
  | none => exact hf
  | some p => obtain ⟨loc, e⟩ := p; exact ⟨e, hf⟩

/-- **every method call** leaves the invariant and a coherent handle, including the inserting calls that grow the
    table or move other elements -/
theorem step_coherent (c : Cfg) (hR : 0 < c.R) (raw : Bool) (k : Nat) (m : Map) (st : ES) (acc : ChainAcc)
    (s : EStep) (o : Orc) (h : Inv c.R m) (hok : HandleOK m k st) (happ : Applicable raw st s) :
    OkOrCap (chainStep c raw k m st acc s o) (fun r => Inv c.R r.1 ∧ HandleOK r.1 k r.2.1) :=
  chainStep_ok c hR raw k m st acc s o h hok happ

theorem chainApplicable_single {c : Cfg} {raw : Bool} {k : Nat} {s : EStep} {m : Map} {st : ES} {acc : ChainAcc} {o : Orc}
    (h : Applicable raw st s) : chainApplicable c raw k [s] m st acc o :=
  ⟨h, fun _ _ _ _ => trivial⟩

/-- **Chains of any depth**: the invariant and the handle's coherence are preserved throughout. -/
theorem chain_coherent (c : Cfg) (hR : 0 < c.R) (raw : Bool) (k : Nat) :
    ∀ (steps : List EStep) (o : Orc) (m : Map) (st : ES) (acc : ChainAcc),
      Inv c.R m → HandleOK m k st → chainApplicable c raw k steps m st acc o →
      OkOrCap (chainLoop c raw k steps m st acc o) (fun r => Inv c.R r.1 ∧ HandleOK r.1 k r.2.1) :=
  fun steps o m st acc h hok happ =>
    (chain_full c hR raw k steps o m st acc h hok happ).mono fun _ hr => ⟨hr.1, hr.2.1⟩

/-- the whole `entry(k)…` / `raw_entry_mut().from_*(k)…` call keeps the invariant — so in particular
    **the key has at most one element afterwards**, whatever the chain did -/
theorem one_element_per_key (c : Cfg) (hR : 0 < c.R) (raw : Bool) (lh : Nat) (m : Map) (k kid : Nat)
    (steps : List EStep) (o : Orc) (h : Inv c.R m)
    (happ : chainApplicable c raw k steps m (lookupState raw m k kid) { cost := { hashes := lh } } o) :
    OkOrCap (entryChain c raw lh m k kid steps o) (fun r =>
      Inv c.R r.1 ∧ (keysOf r.1.ents).Nodup ∧
      (∃ seen, r.2.ret = .chain (absOf m k).isSome seen)) := by
  rw [entryChain_eq]
  have hs := chain_coherent c hR raw k steps o m _ { cost := { hashes := lh } } h (lookup_handle_ok m k kid raw) happ
  refine hs.elim (fun _ => id) fun ⟨m', st, acc⟩ ⟨hi, _⟩ => .ok ⟨hi, hi.nodup, acc.seen, ?_⟩
  rw [← lookup_occupied_iff m k h]

/-- **The handle returned by an inserting call designates the new element**, even when the call
    started a resize or moved other elements: the element is in the main table, found by lookup. -/
theorem inserting_handle_designates_new (c : Cfg) (hR : 0 < c.R) (m : Map) (e : Entry) (hits : Nat) (perm : List Nat)
    (h : Inv c.R m) (hvac : m.find e.k = none) :
    OkOrCap (Raw.insert c m e hits perm) (fun r =>
      Inv c.R r.1 ∧ r.1.find e.k = some (⟨true, e.k⟩, e)) :=
  (vacInsert_handle c hR m e hits perm h hvac).mono (fun _ hs => ⟨hs.1, hs.2.1⟩)

/-- **A write through a handle is seen by later lookups.** -/
theorem write_through_seen {R : Nat} (m : Map) (k : Nat) (loc : Loc) (e : Entry) (v vid : Nat)
    (h : Inv R m) (hf : m.find k = some (loc, e)) :
    absOf (setValAt m loc v vid) k = some { e with v := v, vid := vid } := by
  obtain ⟨hi, hf', _⟩ := setValAt_spec h hf v vid
  have := find_eq_abs hi k
  rw [hf'] at this
  exact this.symm

/-- non-vacuity: `replace_entry_with(None)` on an old-table key followed by an insert through the
    vacant handle leaves exactly one element for the key, now in the main table -/
example :
    let m : Raw := { main := { buckets := 16, ents := [⟨1, 0, 5, 0⟩], gl := 9 },
                     lo := some { buckets := 4, ents := [⟨2, 0, 7, 0⟩, ⟨4, 0, 8, 0⟩], cursor := 2 } }
    (match entryChain { R := 8 } false 1 m 4 90 [.occReplaceWith false 0, .vacInsert false 0 33 91 1] {} with
     | .ok (m', _) => (m'.ents.filter (fun x => x.k == 4)).map (fun x => (x.v, x.kid))
     | .error _ => []) = [(34, 0)] := by
  intros; rfl

end Griddle.C12
