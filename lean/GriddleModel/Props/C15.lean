/-
  C15 — Rayon traversal equals sequential traversal under every schedule.   (PARTIAL: logic only)

  For EVERY split tree (= every way rayon may split and steal), every range:
  the pieces are a partition of the range's elements — concatenated left to right they are
  exactly the sequential sequence, so each element is visited exactly once and handed to exactly
  one worker; griddle's `RawParIter` over main ⊎ old table therefore visits exactly the elements
  the sequential iterator does; `helpers::collect` rebuilds the input sequence for every
  schedule (so `par_extend` / `from_par_iter` = sequential `extend`); predicates evaluated with
  `all` over the pieces (`par_eq`, `par_is_subset`, `par_is_disjoint`) equal the sequential ones.
  Data races and atomicity of real threads are outside a functional model: they are covered by
  running real rayon pools (1, 2, 3, 4, 8, 16 threads, repeated) with per-element visit counters.
-/
import GriddleModel.Par
namespace Griddle.C15
open Par

theorem split_items {α : Type} (r : Range α) :
    (r.split.1.items ++ (match r.split.2 with | some b => b.items | none => [])) = r.items := by
  unfold Range.split
  cases hr : r.rest with
  | nil => exact List.append_nil _
  | cons g0 gs0 =>
    dsimp only
    rw [← hr]
    have h := List.take_append_drop (r.rest.length / 2) r.rest
    cases hd : r.rest.drop (r.rest.length / 2) with
    | nil => exact List.append_nil _
    | cons g gs =>
      rw [hd] at h
      show (r.cur ++ (r.rest.take _).flatten) ++ (g ++ gs.flatten) = r.cur ++ r.rest.flatten
      rw [List.append_assoc, ← List.flatten_cons, ← List.flatten_append, h]

/-- **Every schedule partitions the range**: the pieces, concatenated, are exactly the range's
    elements in sequential order. -/
theorem pieces_partition {α : Type} : ∀ (t : SplitTree) (r : Range α), (pieces t r).flatten = r.items := by
  intro t
  induction t with
  | leaf => intro r; simp [pieces]
  | node l r' ihl ihr =>
    intro rg
    rw [← split_items rg, pieces]
    obtain ⟨a, b⟩ := rg.split
    cases b with
    | none => rw [ihl, List.append_nil]
    | some b => rw [List.flatten_append, ihl, ihr]

/-- each element is handed to exactly one worker, once: the total count over all pieces is the
    sequential count, for every element -/
theorem visited_exactly_once {α : Type} [DecidableEq α] (t : SplitTree) (r : Range α) (x : α) :
    ((pieces t r).map (fun p => p.count x)).sum = r.items.count x := by
  rw [← pieces_partition t r, List.count_flatten]

/-- griddle's parallel iterator over both tables visits exactly the sequential elements -/
theorem par_iter_partition {α : Type} (t1 t2 : SplitTree) (main : Range α) (old : Option (Range α)) :
    (parPieces t1 t2 main old).flatten =
      main.items ++ (match old with | some o => o.items | none => []) := by
  unfold parPieces
  cases old with
  | none => simp [pieces_partition]
  | some o => simp [List.flatten_append, pieces_partition]

/-- `helpers::collect` returns the input sequence for every schedule -/
theorem collect_order {α : Type} (t : SplitTree) (r : Range α) : collect t r = r.items :=
  pieces_partition t r

/-- a predicate checked with `all` piece by piece (`par_eq`, `par_is_subset`, `par_is_disjoint`)
    equals the sequential check -/
theorem par_all {α : Type} (t : SplitTree) (r : Range α) (p : α → Bool) :
    (pieces t r).all (fun piece => piece.all p) = r.items.all p := by
  rw [← pieces_partition t r, List.all_flatten]

/-- non-vacuity: an unbalanced schedule on a 5-group range -/
example : pieces (.node (.node .leaf .leaf) (.node .leaf (.node .leaf .leaf)))
    ({ cur := [1], rest := [[2, 3], [], [4], [5, 6]] } : Range Nat) = [[1, 2, 3], [], [4], [5, 6]] := rfl

end Griddle.C15
