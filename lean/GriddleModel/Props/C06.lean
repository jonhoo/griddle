/-
  C06 — Every stored key and value is dropped exactly once; nothing leaks.

  Object identities (`kid`, `vid`) are ghost fields of the model's entries; `Cost.dropped` lists
  the objects the map dropped during a call, `Out.returned` those it handed back.  Conservation:
      stored after ⊎ handed back ⊎ dropped  =  stored before ⊎ passed in        (as multisets)
  Together with "no identity is stored twice" (distinct keys, and `ids_nodup_insert_new` for identities when
  the caller passes fresh objects) this gives: never both, never twice, nothing leaks.

  PARTIAL: proved for insert (new key / overwrite in either table, including the carried elements —
  moved, never copied), removals, clear, growth / carry / carry_all, dropping the map, `retain`
  and `drain_filter` (pulled any number of times, then dropped or forgotten); `drain` / `into_iter`
  prefixes and the entry API's displaced keys rest on the lock-step of per-call dropped / returned
  ids.  Under an injected panic: `C07.insert_call_hash_panic_safe`,
  `C07.replace_call_closure_panic_safe`.
-/
import GriddleModel.Lemmas.Retain
import GriddleModel.Lemmas.Steps
namespace Griddle.C06

/-- `insert`: conservation of key and value objects, whichever table held the key. -/
theorem ledger_insert (c : Cfg) (hR : 0 < c.R) (m : Map) (e : Entry) (o : Orc) (h : Inv c.R m) :
    OkOrCap (Map.insert c m e o) (fun r =>
      (idsOf r.1.ents ++ r.2.returned ++ r.2.cost.dropped).Perm (idsOf m.ents ++ e.ids)) := by
  refine (Map.insert_spec c hR m e o h).mono fun r hr => ?_
  obtain ⟨-, -, -, -, -, -, -, -, -, hl⟩ := hr
  exact hl

/-- `remove_entry`: the stored key and value objects are handed back, nothing is dropped. -/
theorem ledger_remove {R : Nat} (hR : 0 < R) (m : Map) (k : Nat) (o : Orc) (h : Inv R m) :
    ∃ m' out, Map.removeEntry m k o = .ok (m', out) ∧ out.cost.dropped = [] ∧
      (idsOf m'.ents ++ out.returned).Perm (idsOf m.ents) := by
  unfold Map.removeEntry
  cases hf : m.find k with
  | none => exact ⟨m, _, rfl, rfl, by rw [List.append_nil]⟩
  | some p =>
    obtain ⟨loc, e⟩ := p
    obtain ⟨t', cost, hr, _, hp, _, _, _, _, _, cd, _⟩ := removeAt_spec hR h hf (decide (0 < o.empt))
    simp only [hr]
    exact ⟨t', _, rfl, cd, List.perm_append_comm.trans (idsOf_perm hp)⟩

/-- `clear`: everything stored is dropped, exactly once. -/
theorem ledger_clear {R : Nat} (t : Raw) (h : Inv R t) :
    (Raw.clear t).1.ents = [] ∧ (Raw.clear t).2.dropped.Perm (idsOf t.ents) :=
  ⟨(clear_spec t h).2.1, (clear_spec t h).2.2.2.2.1⟩

/-- `carry` moves elements between the tables: the stored objects are the same, none dropped. -/
theorem ledger_carry (c : Cfg) (hR : 0 < c.R) (t : Raw) (hits : Nat) (h : Inv c.R t) :
    OkOr (Raw.carry c t hits) (fun r => (idsOf r.1.ents).Perm (idsOf t.ents) ∧ r.2.2.dropped = []) :=
  (carry_inv c hR t hits h).mono fun _ hs => ⟨idsOf_perm hs.2.1, hs.2.2.2.2.2.2⟩

/-- growth / `reserve` (incl. `carry_all` mid-resize) / `shrink_to`: same objects, none dropped. -/
theorem ledger_reserve (c : Cfg) (hR : 0 < c.R) (t : Raw) (n hits : Nat) (perm : List Nat) (h : Inv c.R t) :
    OkOrCap (Raw.reserve c t n hits perm) (fun r => (idsOf r.1.ents).Perm (idsOf t.ents) ∧ r.2.dropped = []) :=
  (reserve_spec c hR t n hits perm h).mono (fun _ hs => ⟨idsOf_perm hs.2.1, hs.2.2.2.2⟩)

theorem ledger_shrink (c : Cfg) (hR : 0 < c.R) (t : Raw) (n : Nat) (h : Inv c.R t) (hs : t.len + t.len + 1 < USIZE) :
    OkOrCap (Raw.shrinkTo c t n) (fun r => (idsOf r.1.ents).Perm (idsOf t.ents) ∧ r.2.dropped = []) :=
  (shrinkTo_spec c hR t n h hs).mono (fun _ hs => ⟨idsOf_perm hs.2.1, hs.2.2.2.2.1⟩)

/-- dropping the map drops exactly what it still stores (both tables) and frees its tables -/
theorem ledger_drop (m : Map) : (Map.dropAll m).dropped.Perm (idsOf m.ents) := by
  unfold Map.dropAll Raw.ents
  cases hlo : m.lo with
  | none => simp [HB.freeCost, idsOf]
  | some o =>
    simp only [Old.dropCost, HB.freeCost, Cost.add_dropped, List.append_nil, idsOf_append]
    exact List.perm_append_comm

/-- identities stay distinct: if the caller passes fresh objects, no identity is ever stored twice -/
theorem ids_nodup_insert_new (c : Cfg) (hR : 0 < c.R) (t : Raw) (e : Entry) (hits : Nat) (perm : List Nat)
    (h : Inv c.R t) (hfresh : e.k ∉ keysOf t.ents) (hids : (idsOf (e :: t.ents)).Nodup) :
    OkOrCap (Raw.insert c t e hits perm) (fun r => (idsOf r.1.ents).Nodup) :=
  (Raw.insert_spec c hR t e hits perm h hfresh).mono (fun _ hs => (idsOf_perm hs.2.1).nodup_iff.2 hids)

/-- `retain(f)`: every object is still stored or was dropped by the call, exactly once; nothing is
    handed back. -/
theorem ledger_retain {R : Nat} (hR : 0 < R) (m : Map) (p : Pred) (o : Orc) (h : Inv R m) :
    OkOr (Map.retain m p o) (fun r =>
      (idsOf r.1.ents ++ r.2.cost.dropped).Perm (idsOf m.ents) ∧ r.2.returned = []) := by
  refine (Map.retain_spec m p o h).mono fun r hr => ?_
  obtain ⟨-, -, -, -, -, -, -, -, hl⟩ := hr
  exact hl

/-- `drain_filter(f)` pulled `take` times, then dropped or forgotten: every object is still stored,
    was handed to the caller (the yielded pairs), or was dropped by the iterator's destructor —
    exactly one of the three. -/
theorem ledger_drain_filter {R : Nat} (hR : 0 < R) (m : Map) (p : Pred) (take : Nat) (forget : Bool) (o : Orc)
    (h : Inv R m) :
    OkOr (Map.drainFilter m p take forget o) (fun r =>
      (idsOf r.1.ents ++ r.2.returned ++ r.2.cost.dropped).Perm (idsOf m.ents) ∧
      (forget = true → r.2.cost.dropped = [])) := by
  refine (Map.drainFilter_spec hR m p take forget o h).mono fun r hr => ?_
  obtain ⟨-, -, -, -, -, -, -, -, hl⟩ := hr
  exact hl

end Griddle.C06
