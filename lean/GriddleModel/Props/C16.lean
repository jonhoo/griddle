/-
  C16 — Serde round-trip preserves the collection.

  For every state satisfying the invariant (every resize phase, incl. empty), every iteration
  order of the shape the real iterator has, every size hint (honest, absent or lying) and every
  oracle: serialisation emits the exact length followed by each element exactly once, in
  iteration order; deserialising that stream yields a map with exactly the same entries;
  `deserialize_in_place` yields exactly the stream's entries whatever the destination held
  (no hypothesis on its contents; any resize phase).
-/
import GriddleModel.Serde
import GriddleModel.Props.C08
import GriddleModel.Props.C01
import GriddleModel.Props.C01Extend
namespace Griddle.C16
open Serde

/-- serialisation: exact length, then each stored element exactly once -/
theorem ser_tokens {R : Nat} (m : Map) (order : List Nat) (h : Inv R m) (hok : Map.iterOrderOk m order = true) :
    (serialize m order).1 = (serialize m order).2.length ∧ (serialize m order).2.Perm m.ents := by
  have hp := C08.iter_perm m order h hok
  exact ⟨by simp only [serialize]; rw [hp.length_eq, Raw.len_eq], hp⟩

theorem insertAll_eq_extendLoop (c : Cfg) (orcs : Nat → Orc) : ∀ (tokens : List Entry) (m : Map) (cost : Cost),
    insertAll c m tokens orcs = (Map.extendLoop c (fun _ => orcs) m tokens cost).map (·.1) := by
  intro tokens
  induction tokens with
  | nil => intro m cost; rfl
  | cons e rest ih =>
    intro m cost
    unfold insertAll Map.extendLoop
    cases Map.insert c m e (orcs rest.length) with
    | error f => rfl
    | ok r => exact ih r.1 _

/-- a stream is not a map: with keys repeated in it (and whatever the size hint says) inserting it is the reference
    map's fold of `insert` — the last value of a key wins, the key is stored once -/
theorem insertAll_fold (c : Cfg) (hR : 0 < c.R) (orcs : Nat → Orc) :
    ∀ (tokens : List Entry) (m : Map), Inv c.R m →
      OkOrCap (insertAll c m tokens orcs) (fun m' =>
        Inv c.R m' ∧ ∀ k, absOf m' k = C01.specExtend (absOf m) tokens k) := by
  intro tokens m h
  rw [insertAll_eq_extendLoop c orcs tokens m {}]
  have hs := C01.extendLoop_spec c hR (fun _ => orcs) tokens m {} h
  exact hs.elim (fun _ => id) fun r hr => .ok ⟨hr.1, hr.2.1⟩

/-- inserting a stream of entries with distinct keys, none of them present: afterwards a key maps
    to its stream entry if it has one, else to what it mapped to before -/
theorem insertAll_spec (c : Cfg) (hR : 0 < c.R) (orcs : Nat → Orc) :
    ∀ (tokens : List Entry) (m : Map), Inv c.R m → (keysOf tokens).Nodup →
      (∀ e ∈ tokens, absOf m e.k = none) →
      OkOrCap (insertAll c m tokens orcs) (fun m' =>
        Inv c.R m' ∧ ∀ k, absOf m' k = (match lookupIn tokens k with | some e => some e | none => absOf m k)) := by
  intro tokens m h hnd hfresh
  refine (insertAll_fold c hR orcs tokens m h).mono fun m' hm => ⟨hm.1, fun k => ?_⟩
  rw [hm.2 k, C01.specExtend_fresh tokens (absOf m) hnd hfresh k]
  cases lookupIn tokens k <;> rfl

/-- **deserialising ANY stream** — repeated keys, honest / absent / lying hint —: the invariant, and the contents
    of the reference map built by inserting the pairs in order -/
theorem de_stream (c : Cfg) (hR : 0 < c.R) (tokens : List Entry) (hint : Option Nat) (orcs : Nat → Orc) :
    OkOrCap (deserialize c tokens hint orcs) (fun m' =>
      Inv c.R m' ∧ ∀ k, absOf m' k = C01.specExtend (fun _ => none) tokens k) := by
  unfold deserialize Map.withCapacity
  have hw := C01.inv_withCapacity c (cautious hint)
  refine hw.elim (fun _ => id) fun ⟨m0, cost⟩ hr => ?_
  obtain ⟨hi0, he0, -⟩ := hr
  dsimp only at hi0 he0 ⊢
  have habs0 : absOf m0 = fun _ => none := funext (absOf_nil he0)
  exact habs0 ▸ insertAll_fold c hR orcs tokens m0 hi0

/-- **Round trip**: deserialising what serialisation emitted gives a map with exactly the same
    entries (any hint), satisfying the invariant. -/
theorem de_ser (c : Cfg) (hR : 0 < c.R) (m : Map) (order : List Nat) (hint : Option Nat) (orcs : Nat → Orc)
    (h : Inv c.R m) (hok : Map.iterOrderOk m order = true) :
    OkOrCap (deserialize c (serialize m order).2 hint orcs) (fun m' =>
      Inv c.R m' ∧ ∀ k, absOf m' k = absOf m k) := by
  have hp := (ser_tokens m order h hok).2
  have hnd : (keysOf (serialize m order).2).Nodup := (keysOf_perm hp).nodup_iff.2 h.nodup
  refine (de_stream c hR _ hint orcs).mono fun m' hm => ⟨hm.1, fun k => ?_⟩
  rw [hm.2 k, C01.specExtend_fresh _ _ hnd (fun _ _ => rfl) k, Option.or_none]
  exact lookupIn_perm hp h.nodup k

/-- `deserialize_in_place` on any stream: what the destination held is gone, whatever it was -/
theorem de_in_place_stream (c : Cfg) (hR : 0 < c.R) (place : Map) (tokens : List Entry) (hint : Option Nat)
    (orcs : Nat → Orc) (h : Inv c.R place) :
    OkOrCap (deserializeInPlace c place tokens hint orcs) (fun m' =>
      Inv c.R m' ∧ ∀ k, absOf m' k = C01.specExtend (fun _ => none) tokens k) := by
  unfold deserializeInPlace Map.clear Map.reserve
  have hc := clear_spec place h
  generalize Raw.clear place = r0 at hc ⊢
  obtain ⟨m0, c0⟩ := r0
  obtain ⟨hi0, he0, -⟩ := hc
  dsimp only at hi0 he0 ⊢
  have hrs := reserve_spec c hR m0 (cautious hint) (orcs tokens.length).hits (orcs tokens.length).perm hi0
  refine hrs.elim (fun _ => id) fun ⟨m1, c1⟩ hr => ?_
  obtain ⟨hi1, hp1, -⟩ := hr
  dsimp only at hi1 hp1 ⊢
  have habs1 : absOf m1 = fun _ => none := funext (absOf_nil (he0 ▸ hp1).eq_nil)
  exact habs1 ▸ insertAll_fold c hR orcs tokens m1 hi1

/-- **`deserialize_in_place` replaces the previous contents entirely**, whatever they were. -/
theorem de_in_place (c : Cfg) (hR : 0 < c.R) (place : Map) (tokens : List Entry) (hint : Option Nat)
    (orcs : Nat → Orc) (h : Inv c.R place) (hnd : (keysOf tokens).Nodup) :
    OkOrCap (deserializeInPlace c place tokens hint orcs) (fun m' =>
      Inv c.R m' ∧ ∀ k, absOf m' k = lookupIn tokens k) := by
  refine (de_in_place_stream c hR place tokens hint orcs h).mono fun m' hm => ⟨hm.1, fun k => ?_⟩
  rw [hm.2 k, C01.specExtend_fresh _ _ hnd (fun _ _ => rfl) k, Option.or_none]

/-- non-vacuity: the stream (1,10) (2,20) (1,11) with a hint of 3 gives two entries, key 1 with the LAST value -/
example :
    (match deserialize { R := 8 } [⟨1, 1, 10, 2⟩, ⟨2, 3, 20, 4⟩, ⟨1, 5, 11, 6⟩] (some 3) (fun _ => {}) with
     | .ok m => (m.len, (m.find 1).map (fun p => p.2.v), (m.find 2).map (fun p => p.2.v))
     | .error _ => (0, none, none)) = (2, some 11, some 20) := rfl

end Griddle.C16
