/-
  C08 (continued) — the iterators step by step (`GriddleModel/Iter.lean`), for every map state satisfying the
  invariant, every order in which hashbrown visits the main table and every number of pulls `n`.

  `RawIter` (behind `iter`, `iter_mut`, `keys`, `values`, `values_mut`) and `RawIntoIter` / `RawDrain`, pulled `n`
  times, never fault; the `size_hint()` read before the `k`-th pull is exactly `(total - k, Some(total - k))`; the
  elements returned are the first `n` of `main ++ old (cursor order)` resp. `old ++ main`, each flagged with the
  table it lives in (`run_spec`); once `next` has returned `None` it does so forever (`fused`).  Started on a map
  with `Inv` the machines are in agreement — that is where I2, cursor = elements left, is used — and produce the
  sequence `Map.iter` / `Map.drain` describe.  The closing `example`: with a cursor that claims one element too many,
  the very same machine reports the over-read.
  (The machines are `Griddle.It.RIt` …, the theorems `Griddle.C08.RIt.*`: hence `RIt.Agrees i`, not `i.Agrees`.)
-/
import GriddleModel.Iter
import GriddleModel.Props.C08
namespace Griddle.C08

open It

/-- counter = elements left -/
def HIt.Agrees (i : HIt) : Prop := i.items = i.rest.length

theorem HIt.next_nil {i : HIt} (h : HIt.Agrees i) (hr : i.rest = []) : i.next = .ok (none, i) := by
  unfold HIt.Agrees at h
  unfold It.HIt.next
  simp [h, hr]

theorem HIt.next_cons {i : HIt} {e : Entry} {r : List Entry} (h : HIt.Agrees i) (hr : i.rest = e :: r) :
    i.next = .ok (some e, { rest := r, items := r.length }) := by
  unfold HIt.Agrees at h
  unfold It.HIt.next
  simp [h, hr]

theorem HIt.next_spec {i : HIt} (h : HIt.Agrees i) :
    ∃ j, i.next = .ok (i.rest.head?, j) ∧ HIt.Agrees j ∧ j.rest = i.rest.tail := by
  cases hr : i.rest with
  | nil => exact ⟨i, HIt.next_nil h hr, h, hr⟩
  | cons e r => exact ⟨_, HIt.next_cons h hr, rfl, rfl⟩

theorem HIt.fresh_agrees (es : List Entry) : HIt.Agrees (It.HIt.fresh es) := rfl

/-- The induction behind `RIt.run_spec` and `DIt.run_spec`: all that is asked of a machine is that, in a state that
    `Agrees`, `next` hands out the head of `all` and keeps the tail, and the hint is the length of `all`
    (`run_zero`, `run_succ`: what `RIt.run` / `DIt.run` do when nothing faults). -/
theorem run_spec_of_next {σ α : Type} {next : σ → Except Fault (Option α × σ)} {hint : σ → Nat × Option Nat}
    {run : Nat → σ → Except Fault (List (Nat × Option Nat) × List α × σ)} {Agrees : σ → Prop} {all : σ → List α}
    (run_zero : ∀ i, run 0 i = .ok ([], [], i))
    (run_succ : ∀ n i o i' hs ys j, next i = .ok (o, i') → run n i' = .ok (hs, ys, j) →
      run (n + 1) i = .ok (hint i :: hs, o.toList ++ ys, j))
    (hhint : ∀ i, Agrees i → hint i = ((all i).length, some (all i).length))
    (hnext : ∀ i, Agrees i → ∃ j, next i = .ok ((all i).head?, j) ∧ Agrees j ∧ all j = (all i).tail) :
    ∀ n i, Agrees i →
      ∃ j, run n i = .ok ((List.range n).map (fun k => ((all i).length - k, some ((all i).length - k))),
                          (all i).take n, j)
        ∧ Agrees j ∧ all j = (all i).drop n := by
  intro n
  induction n with
  | zero => intro i h; exact ⟨i, by simp [run_zero], h, rfl⟩
  | succ n ih =>
    intro i h
    obtain ⟨i', hn, hi', hall'⟩ := hnext i h
    obtain ⟨j, hj, hja, hjall⟩ := ih i' hi'
    refine ⟨j, ?_, hja, by rw [hjall, hall', List.drop_tail]⟩
    rw [run_succ n i _ i' _ _ j hn hj, hhint i h, hall']
    cases all i <;> simp [List.range_succ_eq_map, Function.comp_def]

def RIt.Agrees (i : RIt) : Prop :=
  HIt.Agrees i.table ∧ ∀ lo, i.leftovers = some lo → HIt.Agrees lo

/-- everything the iterator has still to yield, with the `in_main` flag -/
def RIt.all (i : RIt) : List (Entry × Bool) :=
  i.table.rest.map (fun e => (e, true)) ++
    (match i.leftovers with | some lo => lo.rest.map (fun e => (e, false)) | none => [])

theorem RIt.sizeHint_exact {i : RIt} (h : RIt.Agrees i) :
    i.sizeHint = ((RIt.all i).length, some (RIt.all i).length) := by
  obtain ⟨t, lo⟩ := i
  have ht : t.items = t.rest.length := h.1
  cases lo with
  | none => simp [It.RIt.sizeHint, It.HIt.sizeHint, RIt.all, ht]
  | some l => simp [It.RIt.sizeHint, RIt.all, ht, show l.items = l.rest.length from h.2 l rfl]

theorem RIt.next_spec {i : RIt} (h : RIt.Agrees i) :
    ∃ j, i.next = .ok ((RIt.all i).head?, j) ∧ RIt.Agrees j ∧ RIt.all j = (RIt.all i).tail := by
  obtain ⟨t, lo⟩ := i
  unfold It.RIt.next RIt.all
  dsimp only
  cases htr : t.rest with
  | cons e r => rw [HIt.next_cons h.1 htr]; exact ⟨_, rfl, ⟨rfl, h.2⟩, rfl⟩
  | nil =>
    rw [HIt.next_nil h.1 htr]
    cases lo with
    | none => exact ⟨_, rfl, h, by simp [htr]⟩
    | some l =>
      dsimp only
      cases hlr : l.rest with
      | nil => rw [HIt.next_nil (h.2 l rfl) hlr]; exact ⟨_, rfl, h, by simp [htr, hlr]⟩
      | cons e r =>
        rw [HIt.next_cons (h.2 l rfl) hlr]
        exact ⟨_, rfl, ⟨h.1, fun _ hl => by cases hl; rfl⟩, by simp [htr]⟩

/-- an exhausted `RawIter` is left as it is by `next` (`RawIntoIter` is not: it releases the old table) -/
theorem RIt.next_done {i : RIt} (h : RIt.Agrees i) (ha : RIt.all i = []) : i.next = .ok (none, i) := by
  obtain ⟨t, lo⟩ := i
  obtain ⟨htr, hlr⟩ := List.append_eq_nil_iff.1 ha
  unfold It.RIt.next
  dsimp only at htr hlr ⊢
  rw [HIt.next_nil h.1 (List.map_eq_nil_iff.1 htr)]
  cases lo with
  | none => rfl
  | some l => dsimp only; rw [HIt.next_nil (h.2 l rfl) (List.map_eq_nil_iff.1 hlr)]

/-- **every step of `RawIter`**: no fault, exact `size_hint` before each pull, the first `n` elements of
    `main ++ old`, and the rest is still there -/
theorem RIt.run_spec : ∀ (n : Nat) (i : RIt), RIt.Agrees i →
    ∃ j, It.RIt.run n i = .ok ((List.range n).map (fun k => ((RIt.all i).length - k, some ((RIt.all i).length - k))),
                               (RIt.all i).take n, j)
      ∧ RIt.Agrees j ∧ RIt.all j = (RIt.all i).drop n :=
  run_spec_of_next (fun _ => rfl) (fun n i o i' hs ys j hn hr => by cases o <;> simp [It.RIt.run, hn, hr])
    (fun _ => RIt.sizeHint_exact) (fun _ => RIt.next_spec)

/-- **fused**: after the last element `next` is `None` forever and the hint is `(0, Some(0))` -/
theorem RIt.fused {i : RIt} (h : RIt.Agrees i) (ha : RIt.all i = []) :
    ∀ n, It.RIt.run n i = .ok (List.replicate n (0, some 0), [], i) := by
  intro n
  induction n with
  | zero => rfl
  | succ n ih =>
    unfold It.RIt.run
    rw [RIt.next_done h ha]; dsimp only; rw [ih, RIt.sizeHint_exact h, ha]
    rfl

def DIt.Agrees (i : DIt) : Prop :=
  HIt.Agrees i.table ∧ ∀ lo, i.leftovers = some lo → HIt.Agrees lo

/-- old table first, then the main table -/
def DIt.all (i : DIt) : List Entry :=
  (match i.leftovers with | some lo => lo.rest | none => []) ++ i.table.rest

theorem DIt.sizeHint_exact {i : DIt} (h : DIt.Agrees i) :
    i.sizeHint = ((DIt.all i).length, some (DIt.all i).length) := by
  obtain ⟨t, lo⟩ := i
  have ht : t.items = t.rest.length := h.1
  cases lo with
  | none => simp [It.DIt.sizeHint, It.HIt.sizeHint, DIt.all, ht]
  | some l => simp [It.DIt.sizeHint, DIt.all, ht, show l.items = l.rest.length from h.2 l rfl, Nat.add_comm]

theorem DIt.next_spec {i : DIt} (h : DIt.Agrees i) :
    ∃ j, i.next = .ok ((DIt.all i).head?, j) ∧ DIt.Agrees j ∧ DIt.all j = (DIt.all i).tail := by
  obtain ⟨t, lo⟩ := i
  -- the main table's turn, with the old table absent or just released
  obtain ⟨t', ht', hta, htr⟩ := HIt.next_spec h.1
  unfold It.DIt.next DIt.all
  dsimp only
  cases lo with
  | none => rw [ht']; exact ⟨_, rfl, ⟨hta, nofun⟩, by simp [htr]⟩
  | some l =>
    dsimp only
    cases hlr : l.rest with
    | cons e r =>
      rw [HIt.next_cons (h.2 l rfl) hlr]
      exact ⟨_, rfl, ⟨h.1, fun _ hl => by cases hl; rfl⟩, rfl⟩
    | nil => rw [HIt.next_nil (h.2 l rfl) hlr, ht']; exact ⟨_, rfl, ⟨hta, nofun⟩, by simp [htr]⟩

/-- **every step of `RawIntoIter` / `RawDrain`** -/
theorem DIt.run_spec : ∀ (n : Nat) (i : DIt), DIt.Agrees i →
    ∃ j, It.DIt.run n i = .ok ((List.range n).map (fun k => ((DIt.all i).length - k, some ((DIt.all i).length - k))),
                               (DIt.all i).take n, j)
      ∧ DIt.Agrees j ∧ DIt.all j = (DIt.all i).drop n :=
  run_spec_of_next (fun _ => rfl) (fun n i o i' hs ys j hn hr => by cases o <;> simp [It.DIt.run, hn, hr])
    (fun _ => DIt.sizeHint_exact) (fun _ => DIt.next_spec)

theorem DIt.fused {i : DIt} (h : DIt.Agrees i) (ha : DIt.all i = []) :
    ∀ n, ∃ j, It.DIt.run n i = .ok (List.replicate n (0, some 0), [], j) ∧ DIt.all j = [] := by
  intro n
  obtain ⟨j, hj, _, hall⟩ := DIt.run_spec n i h
  refine ⟨j, ?_, by rw [hall, ha]; simp⟩
  rw [hj, ha]
  simp [List.map_const']

/-- I2 for the copy of the cached cursor that `RawTable::iter()` / `drain()` / `into_iter()` start from -/
theorem cursor_agrees {R : Nat} {m : Map} (h : Inv R m) (lo : HIt)
    (hlo : m.lo.map (fun o => ({ rest := o.ents, items := o.cursor } : HIt)) = some lo) : HIt.Agrees lo := by
  obtain ⟨o, ho, rfl⟩ := Option.map_eq_some_iff.1 hlo
  exact h.agree o ho

/-- on a map satisfying the invariant the iterator `RawTable::iter()` builds is in agreement — I2 — and what it
    will yield is the main table in hashbrown's order, then the old table in cursor order -/
theorem iter_steps_of_inv {R : Nat} (m : Map) (mainOrder : List Entry) (h : Inv R m) :
    RIt.Agrees (It.RIt.ofMap m mainOrder) ∧
    RIt.all (It.RIt.ofMap m mainOrder) =
      mainOrder.map (fun e => (e, true)) ++ (match m.lo with | some o => o.ents.map (fun e => (e, false)) | none => []) := by
  refine ⟨⟨HIt.fresh_agrees _, cursor_agrees h⟩, ?_⟩
  unfold RIt.all It.RIt.ofMap It.HIt.fresh
  cases m.lo <;> rfl

theorem drain_steps_of_inv {R : Nat} (m : Map) (mainOrder : List Entry) (h : Inv R m) :
    DIt.Agrees (It.DIt.ofMap m mainOrder) ∧
    DIt.all (It.DIt.ofMap m mainOrder) = (match m.lo with | some o => o.ents | none => []) ++ mainOrder := by
  refine ⟨⟨HIt.fresh_agrees _, cursor_agrees h⟩, ?_⟩
  unfold DIt.all It.DIt.ofMap It.HIt.fresh
  cases m.lo <;> rfl

/-- **C08, per step, on any map with the invariant**: pulled `n` times, `iter()` reports before the `k`-th pull
    exactly `len - k` still to come and hands out the first `n` elements of main ++ old -/
theorem iter_every_step {R : Nat} (m : Map) (mainOrder : List Entry) (h : Inv R m)
    (hlen : mainOrder.length = m.main.ents.length) (n : Nat) :
    ∃ j, It.RIt.run n (It.RIt.ofMap m mainOrder) =
      .ok ((List.range n).map (fun k => (m.len - k, some (m.len - k))),
           (mainOrder.map (fun e => (e, true)) ++
             (match m.lo with | some o => o.ents.map (fun e => (e, false)) | none => [])).take n, j) := by
  obtain ⟨ha, hall⟩ := iter_steps_of_inv m mainOrder h
  obtain ⟨j, hj, -⟩ := RIt.run_spec n _ ha
  have hl : (RIt.all (It.RIt.ofMap m mainOrder)).length = m.len := by
    unfold RIt.all It.RIt.ofMap It.HIt.fresh Raw.len
    cases m.lo <;> simp [hlen]
  exact ⟨j, by rw [hj, hl, hall]⟩

theorem drain_every_step {R : Nat} (m : Map) (mainOrder : List Entry) (h : Inv R m)
    (hlen : mainOrder.length = m.main.ents.length) (n : Nat) :
    ∃ j, It.DIt.run n (It.DIt.ofMap m mainOrder) =
      .ok ((List.range n).map (fun k => (m.len - k, some (m.len - k))),
           ((match m.lo with | some o => o.ents | none => []) ++ mainOrder).take n, j) := by
  obtain ⟨ha, hall⟩ := drain_steps_of_inv m mainOrder h
  obtain ⟨j, hj, -⟩ := DIt.run_spec n _ ha
  have hl : (DIt.all (It.DIt.ofMap m mainOrder)).length = m.len := by
    unfold DIt.all It.DIt.ofMap It.HIt.fresh Raw.len
    cases m.lo <;> simp [hlen, Nat.add_comm]
  exact ⟨j, by rw [hj, hl, hall]⟩

/-- **the whole-call description and the step machine say the same**: for a visiting order of the admissible shape,
    what `Map.iter` returns is the main table in that order followed by the old table in cursor order — the sequence
    `iter_every_step` shows the machine to hand out -/
theorem iter_seq_eq_machine {R : Nat} (m : Map) (order : List Nat) (h : Inv R m)
    (hok : Map.iterOrderOk m order = true) :
    order.filterMap (fun k => (m.find k).map (·.2))
      = It.mainInOrder m (order.take m.main.ents.length) ++ (match m.lo with | some o => o.ents | none => []) := by
  obtain ⟨mk, rfl, hp⟩ := iterOrder_shape h hok
  rw [show m.main.ents.length = mk.length by rw [hp.length_eq, keysOf, List.length_map], List.take_left,
    List.filterMap_append]
  refine congr (congrArg _ (List.filterMap_congr fun k hk => ?_)) ?_
  · -- a key of the main table is found there
    obtain ⟨e, he, rfl⟩ := List.mem_map.1 (hp.subset hk)
    rw [(find_of_mem h).1 he]
    exact (find_key_of_mem h.main_nodup he).symm
  · -- the old table's keys, in its order, are found there: looking them up gives the old table back
    refine (List.filterMap_congr fun k hk => ?_).trans (lookup_keys h.nodup_tables.2.1)
    obtain ⟨e, he, rfl⟩ := List.mem_map.1 hk
    rw [(find_of_mem h).2 he]
    exact (find_key_of_mem h.nodup_tables.2.1 he).symm

/-- … so pulling the machine `len()` times yields exactly what `Map.iter` returns, with an exact hint before every pull -/
theorem iter_machine_yields_iter {R : Nat} (m : Map) (o : Orc) (h : Inv R m) (hok : Map.iterOrderOk m o.calls = true) :
    ∃ hs ys j, It.RIt.run m.len (It.RIt.ofMap m (It.mainInOrder m (o.calls.take m.main.ents.length))) = .ok (hs, ys, j) ∧
      Map.iter m o = .ok { ret := .ents (ys.map (·.1)) } ∧
      hs = (List.range m.len).map (fun k => (m.len - k, some (m.len - k))) := by
  have hseq := iter_seq_eq_machine m o.calls h hok
  obtain ⟨ha, hall⟩ := iter_steps_of_inv m (It.mainInOrder m (o.calls.take m.main.ents.length)) h
  obtain ⟨j, hj, -⟩ := RIt.run_spec m.len _ ha
  -- the machine holds as many elements as `Map.iter` returns, `len()` of them: `len()` pulls take them all
  have hl : (RIt.all (It.RIt.ofMap m (It.mainInOrder m (o.calls.take m.main.ents.length)))).length = m.len := by
    rw [hall, Raw.len_eq, ← (iter_perm m o.calls h hok).length_eq, hseq]
    cases m.lo <;> simp
  rw [hl, List.take_of_length_le (Nat.le_of_eq hl)] at hj
  refine ⟨_, _, j, hj, ?_, rfl⟩
  unfold Map.iter
  simp only [hok, Bool.not_true, Bool.false_eq_true, if_false]
  rw [hseq, hall]
  cases m.lo <;> simp [Function.comp_def]

/-- non-vacuity of the fault: a cursor claiming 2 elements over an old table that holds 1 makes the second
    pull of the old table an over-read — the machine says so — while the agreeing cursor runs clean -/
example :
    let stale : RIt := { table := It.HIt.fresh [], leftovers := some { rest := [⟨1, 0, 5, 0⟩], items := 2 } }
    let good : RIt := { table := It.HIt.fresh [], leftovers := some { rest := [⟨1, 0, 5, 0⟩], items := 1 } }
    (match It.RIt.run 2 stale with | .error (.ub _) => true | _ => false) = true ∧
    (match It.RIt.run 2 good with | .ok (hs, ys, _) => (hs, ys.length) | .error _ => ([], 0)) = ([(1, some 1), (0, some 0)], 1) := by
  intros; exact ⟨rfl, rfl⟩

end Griddle.C08
