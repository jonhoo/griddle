/-
  C17 — Behaviour is identical in debug and release builds.

  `Cfg.debug` is the build profile (debug assertions + overflow checks).  In the model it guards:
  the `debug_assert!(self.leftovers.is_none())` of `try_grow`, the `debug_assert!(is_split())` of
  `HashMap::insert`, and the overflow check of `shrink_to`'s unchecked additions (the repaired
  `reserve` / `try_reserve` / `try_grow` use checked additions in both profiles).  These theorems
  show the flag is inert: every call and every history gives the same result, the same panic and
  the same final state for both values — the two debug assertions are unreachable by construction
  of their callers, the overflow check whenever `2·len()+1` fits `usize`.
-/
import GriddleModel.Lemmas.Small
namespace Griddle.C17

def withDebug (c : Cfg) (b : Bool) : Cfg := { c with debug := b }

/-- the growable insert never reads the profile (nor do `HB.tryWithCapacity`, `allocCheck` under it) -/
theorem insertGrowable_profile (c : Cfg) (b : Bool) : HB.insertGrowable (withDebug c b) = HB.insertGrowable c := rfl

theorem hbShrink_profile (c : Cfg) (b : Bool) (t : HB) (n : Nat) :
    HB.shrinkTo (withDebug c b) t n = HB.shrinkTo c t n := rfl

theorem carry_profile (c : Cfg) (b : Bool) (t : Raw) (hits : Nat) :
    Raw.carry (withDebug c b) t hits = Raw.carry c t hits := rfl

theorem insertNoGrow_profile (c : Cfg) (b : Bool) (t : Raw) (e : Entry) (hits : Nat) :
    Raw.insertNoGrow (withDebug c b) t e hits = Raw.insertNoGrow c t e hits := rfl

/-- without an old table `try_grow`'s debug assertion passes, and nothing else in it reads the profile -/
theorem tryGrow_profile (c : Cfg) (b : Bool) (t : Raw) (extra : Nat) (perm : List Nat) (hlo : t.lo = none) :
    Raw.tryGrow (withDebug c b) t extra perm = Raw.tryGrow c t extra perm := by
  unfold Raw.tryGrow
  simp only [hlo, Option.isSome_none, Bool.and_false]
  rfl

theorem grow_profile (c : Cfg) (b : Bool) (t : Raw) (extra : Nat) (perm : List Nat) (hlo : t.lo = none) :
    Raw.grow (withDebug c b) t extra perm = Raw.grow c t extra perm := by
  rw [Raw.grow_eq_fatal, Raw.grow_eq_fatal, tryGrow_profile c b t extra perm hlo]

theorem rawInsert_profile (c : Cfg) (b : Bool) (t : Raw) (e : Entry) (hits : Nat) (perm : List Nat) :
    Raw.insert (withDebug c b) t e hits perm = Raw.insert c t e hits perm := by
  unfold Raw.insert
  cases hlo : t.lo with
  | some o => rfl
  | none =>
    rw [grow_profile c b t 1 perm hlo]
    rfl

theorem carryAllLoop_profile (c : Cfg) (b : Bool) : ∀ n main ents hits cost,
    Raw.carryAllLoop (withDebug c b) main n ents hits cost = Raw.carryAllLoop c main n ents hits cost := by
  intro n
  induction n with
  | zero => exact fun _ _ _ _ => rfl
  | succ n ih =>
    intro main ents hits cost
    cases ents with
    | nil => rfl
    | cons e rest => simp only [Raw.carryAllLoop, insertGrowable_profile, ih]

theorem carryAll_profile (c : Cfg) (b : Bool) (t : Raw) (hits : Nat) :
    Raw.carryAll (withDebug c b) t hits = Raw.carryAll c t hits := by
  unfold Raw.carryAll
  simp only [carryAllLoop_profile]

theorem tryReserve_profile (c : Cfg) (b : Bool) (t : Raw) (n hits : Nat) (perm : List Nat) :
    Raw.tryReserve (withDebug c b) t n hits perm = Raw.tryReserve c t n hits perm := by
  rw [Raw.tryReserve_eq, Raw.tryReserve_eq, carryAll_profile]
  -- `try_grow` alone reads the profile, and it runs without an old table: after `carry_all`, or on the unsplit arm
  refine if_congr Iff.rfl rfl (if_congr Iff.rfl rfl ?_)
  split
  · refine (Raw.carryAll_lo c t hits).elim (fun _ => rfl) fun r h1 => ?_
    dsimp only
    rw [tryGrow_profile c b r.1 n perm h1]
  · rename_i hlo
    exact tryGrow_profile c b t n perm (Option.not_isSome_iff_eq_none.1 hlo)

theorem reserve_profile (c : Cfg) (b : Bool) (t : Raw) (n hits : Nat) (perm : List Nat) :
    Raw.reserve (withDebug c b) t n hits perm = Raw.reserve c t n hits perm := by
  rw [Raw.reserve_eq_fatal, Raw.reserve_eq_fatal, tryReserve_profile]

theorem mapInsert_profile (c : Cfg) (b : Bool) (m : Map) (e : Entry) (o : Orc) :
    Map.insert (withDebug c b) m e o = Map.insert c m e o := by
  cases hf : m.find e.k with
  | some p =>
    -- the overwrite, with its debug assertion already discharged, does not read the profile
    rw [Map.insert_of_find (loc := p.1) (old := p.2) hf, Map.insert_of_find (loc := p.1) (old := p.2) hf]
    rfl
  | none => simp only [Map.insert, hf, rawInsert_profile]

/-- `shrink_to`'s size computation stays below `2·len()`, so its overflow check cannot fire, whatever the profile -/
theorem shrinkTo_profile (c : Cfg) (b : Bool) (t : Raw) (n : Nat) (hsmall : t.len + t.len + 1 < USIZE) (hR : 0 < c.R) :
    Raw.shrinkTo (withDebug c b) t n = Raw.shrinkTo c t n := by
  rw [Raw.shrinkTo_of_small (withDebug c b) hR t n hsmall, Raw.shrinkTo_of_small c hR t n hsmall]
  rfl

/-- **One call behaves identically in both build profiles.** -/
theorem step_profile_independent (c : Cfg) (hR : 0 < c.R) (b : Bool) (m : Map) (op : Op) (o : Orc) (hp : pre m op) :
    step (withDebug c b) m op o = step c m op o := by
  cases op with
  | insert e => exact mapInsert_profile c b m e o
  | get k => rfl
  | getMut k add => rfl
  | remove k => rfl
  | clear => rfl
  | reserve n => show Map.reserve _ m n o = Map.reserve c m n o; unfold Map.reserve; rw [reserve_profile]
  | tryReserve n => show Map.tryReserve _ m n o = Map.tryReserve c m n o; unfold Map.tryReserve; rw [tryReserve_profile]
  | shrinkTo n => show Map.shrinkTo _ m n = Map.shrinkTo c m n; unfold Map.shrinkTo; rw [shrinkTo_profile c b m n hp hR]

/-- **Every history behaves identically in both build profiles**: same results, same panics,
    same final state. -/
theorem run_profile_independent (c : Cfg) (hR : 0 < c.R) (b : Bool) (orcs : Nat → Orc) :
    ∀ (ops : List Op) (m : Map), runPre c m ops orcs → run (withDebug c b) m ops orcs = run c m ops orcs := by
  intro ops
  induction ops with
  | nil => intro m _; rfl
  | cons op rest ih =>
    intro m hpre
    unfold run
    rw [step_profile_independent c hR b m op (orcs rest.length) hpre.1]
    cases hs : step c m op (orcs rest.length) with
    | error f => rfl
    | ok r =>
      obtain ⟨m', out⟩ := r
      simp only
      rw [ih m' (hpre.2 m' out hs)]

/-- **… with no side condition**: from any state with the two invariants (in particular from a
    fresh map) both profiles run every history identically. -/
theorem run_profile_independent_unconditional (c : Cfg) (hR : 0 < c.R) (b : Bool) (orcs : Nat → Orc)
    (ops : List Op) (m : Map) (h : Inv c.R m) (hs : Small m) :
    run (withDebug c b) m ops orcs = run c m ops orcs :=
  run_profile_independent c hR b orcs ops m (runPre_of_small c hR orcs ops m h hs)

theorem extendLoop_profile (c : Cfg) (b : Bool) (orc : Map → Nat → Orc) :
    ∀ (items : List Entry) (m : Map) (cost : Cost),
      Map.extendLoop (withDebug c b) orc m items cost = Map.extendLoop c orc m items cost := by
  intro items
  induction items with
  | nil => intro m cost; rfl
  | cons e rest ih =>
    intro m cost
    unfold Map.extendLoop
    rw [mapInsert_profile]
    cases Map.insert c m e (orc m rest.length) with
    | error f => rfl
    | ok r => obtain ⟨m', out⟩ := r; exact ih m' _

/-- **`extend` behaves identically in both build profiles, whatever the iterator claims about its length** — the
    hint is rounded without an addition that could overflow, so there is nothing for an overflow check to catch; an
    unsatisfiable hint is `reserve`'s capacity-overflow panic in both.  (Before the repair `f47003f` the code
    computed `(hint + 1) / 2`: a debug build panicked on a hint of `usize::MAX`, a release build reserved 0.) -/
theorem extend_profile_independent (c : Cfg) (b : Bool) (m : Map) (items : List Entry) (hint : Nat)
    (orc : Map → Nat → Orc) :
    Map.extend (withDebug c b) m items hint orc = Map.extend c m items hint orc := by
  unfold Map.extend Map.reserve
  simp only [reserve_profile, extendLoop_profile]

end Griddle.C17
