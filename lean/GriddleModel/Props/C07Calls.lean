/-
  C07 (continued) — whole calls under an injected, caught panic.

  `GriddleModel.Panic` defines `Map.insertFused`, `Map.retainFusedOut`, `Map.replaceFusedOut`: the
  calls the fault lock-step replays against the real crate (`finsert` / `fretain` / `freplace`
  lines: the crate runs under a `Hash` implementation or closure that panics on its `fuse`-th
  invocation, the panic is caught, and the model's state must equal the crate's).  Here: for every
  invariant state, every fuse position and every oracle, what such a call leaves behind.
-/
import GriddleModel.Props.C07
namespace Griddle.C07

/-- `RawTable::insert` of an absent key with a fused `carry` (growing first if the table is full). -/
theorem Raw.insertFused_spec (c : Cfg) (hR : 0 < c.R) (t : Raw) (e : Entry) (fuse hits : Nat) (perm : List Nat)
    (h : Inv c.R t) (hfresh : e.k ∉ keysOf t.ents) :
    OkOrCap (Raw.insertFused c t e fuse hits perm) (fun r =>
      Inv c.R r.1 ∧ (optList r.2.1 ++ r.1.ents).Perm (e :: t.ents) ∧
      (∀ x, r.2.1 = some x → x ∈ t.ents) ∧
      r.2.2.allocs ≤ 1 ∧ r.2.2.dropped = [] ∧ r.2.2.hashes = 0) := by
  unfold Raw.insertFused
  by_cases hgl : t.main.gl = 0
  · obtain ⟨hlo, hg⟩ := grow_of_full_table c hR t perm h hgl
    rw [if_pos hgl, hlo, Option.isSome_none, if_neg Bool.false_ne_true]
    refine hg.elim (fun _ => id) fun r hr => ?_
    obtain ⟨⟨t1, gc⟩, g1, g2, hroom1, g6, g5, g3, -⟩ := r, hr
    dsimp only at g1 g2 hroom1 g3 g5 g6 ⊢
    refine (Raw.insertNoGrowFused_spec c hR t1 e fuse hits g1 hroom1
      fun hin => hfresh ((keysOf_perm g2).mem_iff.1 hin)).toCap.elim (fun _ => id) fun r hr => ?_
    obtain ⟨s1, s2, s3⟩ := hr
    exact .ok ⟨s1, s2.trans (g2.cons e), fun x hx => g2.mem_iff.1 (mem_ents_of_old (s3 x hx)), g6, g5, g3⟩
  · rw [if_neg hgl]
    refine (Raw.insertNoGrowFused_spec c hR t e fuse hits h (Nat.pos_of_ne_zero hgl) hfresh).toCap.elim
      (fun _ => id) fun r hr => ?_
    obtain ⟨s1, s2, s3⟩ := hr
    exact .ok ⟨s1, s2, fun x hx => mem_ents_of_old (s3 x hx), Nat.zero_le _, rfl, rfl⟩

/-- the contents an uninterrupted `insert(e)` leaves, as a list (in no particular order) -/
def insertedEnts (m : Map) (e : Entry) : List Entry :=
  match absOf m e.k with
  | some _ => m.ents.map (updVal e.k e.v e.vid)
  | none => e :: m.ents

/-- a fused `insert` whose fuse is not reached is the ordinary `insert` -/
theorem insertFused_plain (c : Cfg) (hR : 0 < c.R) (m : Map) (e : Entry) (o : Orc) (h : Inv c.R m)
    (T : Map × Out × Bool → Prop) :
    OkOrCap (match Map.insert c m e o with
        | .error f => (.error f : Except Fault (Map × Out × Bool))
        | .ok (m', out) => .ok (m', out, false)) (fun r =>
      Inv c.R r.1 ∧ (r.2.2 = false → Map.insert c m e o = .ok (r.1, r.2.1)) ∧ (r.2.2 = true → T r)) := by
  have hs := Map.insert_spec c hR m e o h
  cases hi : Map.insert c m e o with
  | error f => rw [hi] at hs; exact hs
  | ok r => rw [hi] at hs; exact .ok ⟨hs.1, fun _ => rfl, nofun⟩

/-- **`HashMap::insert` under a `Hash` that panics on its `fuse`-th invocation** (any invariant
    state, any fuse position, any oracle).  Either the fuse is never reached and the call *is* the
    ordinary `insert`; or the panic is caught and the map satisfies the invariant, nothing is handed back, every object is either still stored or was dropped
    exactly once, and the contents are what the uninterrupted call would have left minus exactly
    one element — which, for a new key, is one of the previous elements (the new one stays).
    A panic at invocation 0 (hashing the key handed in) changes nothing at all. -/
theorem insert_call_hash_panic_safe (c : Cfg) (hR : 0 < c.R) (m : Map) (e : Entry) (fuse : Nat) (o : Orc)
    (h : Inv c.R m) :
    OkOrCap (Map.insertFused c m e fuse o) (fun r =>
      Inv c.R r.1 ∧
      (r.2.2 = false → Map.insert c m e o = .ok (r.1, r.2.1)) ∧
      (r.2.2 = true →
        r.2.1.returned = [] ∧
        (idsOf r.1.ents ++ r.2.1.cost.dropped).Perm (idsOf m.ents ++ e.ids) ∧
        (fuse = 0 → r.1 = m) ∧
        (0 < fuse → ∃ lost, (lost :: r.1.ents).Perm (insertedEnts m e) ∧
            (absOf m e.k = none → lost ∈ m.ents)))) := by
  unfold Map.insertFused
  dsimp only
  by_cases hf0 : fuse = 0
  · rw [if_pos hf0]
    exact .ok ⟨h, nofun, fun _ => ⟨rfl, .refl _, fun _ => rfl, fun hpos => absurd hf0 (Nat.ne_of_gt hpos)⟩⟩
  · rw [if_neg hf0]
    rcases find_abs_cases m e.k with ⟨hf, ha, hfresh⟩ | ⟨loc, old, hf, ha⟩
    · rw [hf]
      dsimp only
      refine (Raw.insertFused_spec c hR m e (fuse - 1) o.hits o.perm h hfresh).elim (fun _ => id) fun r hr => ?_
      obtain ⟨⟨m2, lost, gc⟩, s1, s2, s3, -, s5, -⟩ := r, hr
      cases lost with
      | none => exact insertFused_plain c hR m e o h _
      | some lost =>
        refine .ok ⟨s1, nofun, fun _ => ⟨rfl, ?_, fun h0 => absurd h0 hf0, fun _ => ⟨lost, ?_, fun _ => s3 lost rfl⟩⟩⟩
        · -- I(m2) ++ lost.ids ~ I(lost :: m2) ~ I(e :: m) ~ I(m) ++ e.ids
          rw [Cost.add_dropped, s5]
          exact List.perm_append_comm.trans ((idsOf_perm s2).trans List.perm_append_comm)
        · unfold insertedEnts; rw [ha]; exact s2
    · rw [hf]
      obtain ⟨hlk, hok, hmem⟩ := find_loc hf
      obtain ⟨inMain, lk⟩ := loc
      cases hlk
      dsimp only
      cases inMain with
      | true => rw [if_pos rfl]; exact insertFused_plain c hR m e o h _
      | false =>
        -- present in the old table: the value is overwritten in place (`mapAt`), then `carry` runs
        rw [if_neg Bool.false_ne_true]
        have hg : ∀ x : Entry, ({ x with v := e.v, vid := e.vid } : Entry).k = x.k := fun _ => rfl
        have hinv := (mapAt_spec h hf _ hg).1
        have hents1 := mapAt_ents h hf _ hg
        -- the debug assertion holds: the map is still split
        simp only [Raw.isSplit, Option.isSome_map, find_old_split hf rfl, Bool.not_true, Bool.and_false,
          Bool.false_eq_true, if_false]
        refine (carry_hash_panic_safe_inv c hR _ (fuse - 1) o.hits hinv).toCap.elim (fun _ => id) fun r hr => ?_
        obtain ⟨⟨m2, lost⟩, c1, c2, -⟩ := r, hr
        rw [hents1] at c2
        cases lost with
        | none => exact insertFused_plain c hR m e o h _
        | some lost =>
          refine .ok ⟨c1, nofun, fun _ => ⟨rfl, ?_, fun h0 => absurd h0 hf0, fun _ => ⟨lost, ?_, fun hn => ?_⟩⟩⟩
          · -- I(m2) ++ [ek, ov] ++ lost.ids ~ ek :: ov :: I(lost :: m2) ~ ek :: ov :: I(m with e's value) ~ ek :: ev :: I(m)
            have hup := (idsOf_map_at h.nodup hmem fun y => { y with v := e.v, vid := e.vid }).cons_inv
            rw [hok] at hup
            refine List.perm_append_comm.trans ?_
            refine (((idsOf_perm c2).cons old.vid).trans hup |>.cons e.kid).trans ?_
            exact List.perm_append_comm (l₁ := [e.kid, e.vid])
          · unfold insertedEnts; rw [ha]; exact c2
          · rw [ha] at hn; cases hn

/-- **`retain` whose closure panics on entering its `fuse`-th call**, as the lock-step replays it:
    the fuse fires iff the map has that many elements; the visits before it completed, nothing
    else was touched; the invariant holds. -/
theorem retain_call_closure_panic_safe {R : Nat} (hR : 0 < R) (m : Map) (p : Pred) (fuse : Nat) (o : Orc)
    (h : Inv R m) :
    OkOr (Map.retainFusedOut m p fuse o) (fun r =>
      Inv R r.1 ∧ absOf r.1 = specRetain p (absOf m) (o.calls.take fuse) ∧
      (r.2.2 = true ↔ fuse < o.calls.length) ∧ r.2.1.returned = []) := by
  unfold Map.retainFusedOut
  refine (retain_closure_panic_safe hR m p fuse o h).elim (fun _ => id) fun ⟨m', cost⟩ hs => .ok ?_
  exact ⟨hs.1, hs.2, decide_eq_true_iff, rfl⟩

/-- **`entry(k)` + `replace_entry_with` with a panicking closure**, as the lock-step replays it:
    the closure runs iff the key is present; then exactly that element is lost (dropped by the
    unwinding together with the key handed to `entry`), and every object is stored or dropped
    exactly once; the invariant holds. -/
theorem replace_call_closure_panic_safe {R : Nat} (hR : 0 < R) (m : Map) (k kid : Nat) (o : Orc) (h : Inv R m) :
    OkOr (Map.replaceFusedOut m k kid o) (fun r =>
      Inv R r.1 ∧ (r.2.2 = true ↔ (absOf m k).isSome) ∧
      (∀ k', absOf r.1 k' = specDel (absOf m) k k') ∧
      (idsOf r.1.ents ++ r.2.1.cost.dropped).Perm (kid :: idsOf m.ents)) := by
  unfold Map.replaceFusedOut
  obtain ⟨m', hr, hi, hp, he⟩ := replaceFused_spec m k o h
  rw [hr]
  have hl : (idsOf m'.ents ++ kid :: idsOf (optList (absOf m k))).Perm (kid :: idsOf m.ents) :=
    List.perm_middle.trans ((List.perm_append_comm.trans (idsOf_append .. ▸ idsOf_perm hp)).cons kid)
  cases ha : absOf m k with
  | none => rw [ha] at hl; exact .ok ⟨hi, by simp, absOf_filter he, hl⟩
  | some e => rw [ha] at hl; exact .ok ⟨hi, by simp, absOf_filter he, hl⟩

/-- non-vacuity: a fuse at invocation 2 of an inserting call fires inside `carry`, after the new
    element and one relocated element went in; the element in flight (key 2, objects 3 and 4) is lost -/
example :
    let m : Map := { main := { buckets := 16, ents := [], gl := 14 },
                     lo := some { buckets := 4, ents := [⟨1, 1, 1, 2⟩, ⟨2, 3, 1, 4⟩, ⟨3, 5, 1, 6⟩], cursor := 3 } }
    (match Map.insertFused { R := 8 } m ⟨9, 7, 0, 8⟩ 2 {} with
     | .ok (m', out, fired) => (fired, m'.main.ents.map (·.k), (oldList m'.lo).map (·.k), out.cost.dropped)
     | .error _ => (false, [], [], [])) = (true, [1, 9], [3], [3, 4]) := by
  intros; rfl

/-- `drain_filter` whose closure panics on entering its `fuse`-th call: every call but that one is a completed visit
    (`eraseIdx` leaves the order alone when the fuse lies beyond it) — the ones before it by the loop, the ones after
    it by the destructor the unwinding runs. -/
theorem drainFilterFused_spec {R : Nat} (hR : 0 < R) (m : Map) (p : Pred) (fuse : Nat) (o : Orc) (h : Inv R m) :
    OkOr (Map.drainFilterFusedOut m p fuse o) (fun r =>
      Inv R r.1 ∧ (r.2.2 = true ↔ fuse < o.calls.length) ∧ r.2.1.returned = [] ∧
      absOf r.1 = specDrain p (absOf m) (o.calls.eraseIdx fuse) ∧
      o.calls.Nodup ∧ ∀ k, k ∈ o.calls ↔ k ∈ keysOf m.ents) := by
  unfold Map.drainFilterFusedOut
  refine OkOr.of_iterOrderOk h fun hpl hnd hcov => ?_
  dsimp only
  have hnd' := hnd.sublist (List.eraseIdx_sublist o.calls fuse)
  rw [List.eraseIdx_eq_take_drop_succ] at hnd' ⊢
  have hdis := List.disjoint_of_nodup_append hnd'
  have hpl2 := Placed.drop (fuse + 1) _ 0 hpl
  rw [Nat.zero_add] at hpl2
  obtain ⟨m1, ys1, c1, _, pre1, hr1, hks1, hi1, ha1, -, hfr1, hnone1, -⟩ :=
    drainFilterLoop_full hR p m.main.ents.length (o.calls.take fuse) 0 m o.empt none [] {} h
      hnd'.of_append_left (placed_prefix _ (o.calls.drop fuse) 0 (by rwa [List.take_append_drop]))
  obtain rfl := hnone1 rfl
  obtain rfl : o.calls.take fuse = pre1 := hks1.trans (List.append_nil _)
  rw [hr1]
  dsimp only
  obtain ⟨m2, ys2, c2, _, pre2, hr2, hks2, hi2, ha2, -, -, hnone2, -⟩ :=
    drainFilterLoop_full hR p m.main.ents.length (o.calls.drop (fuse + 1)) (fuse + 1) m1
      (o.empt - (ys1.filter (fun e => (m.main.find? e.k).isSome)).length) none [] {} hi1
      hnd'.of_append_right (hfr1 _ _ hdis hpl2)
  obtain rfl := hnone2 rfl
  obtain rfl : o.calls.drop (fuse + 1) = pre2 := hks2.trans (List.append_nil _)
  rw [hr2]
  exact .ok ⟨hi2, decide_eq_true_iff, rfl, by rw [ha2, ha1, specDrain_append p _ _ _ hdis], hnd, hcov⟩

/-- **`drain_filter` whose closure panics on entering its `fuse`-th call** (pulled until then; the
    panic is caught).  The fuse fires iff the map has that many elements; the invariant holds; the
    element the closure panicked on is exactly as it was; every other element was visited once:
    the matching ones are gone, the others carry the closure's mutation.  Nothing is handed back
    (what had been yielded is dropped by the unwinding). -/
theorem drain_filter_call_closure_panic_safe {R : Nat} (hR : 0 < R) (m : Map) (p : Pred) (fuse : Nat) (o : Orc)
    (h : Inv R m) :
    OkOr (Map.drainFilterFusedOut m p fuse o) (fun r =>
      Inv R r.1 ∧ (r.2.2 = true ↔ fuse < o.calls.length) ∧ r.2.1.returned = [] ∧
      (∀ k, absOf r.1 k =
        if o.calls[fuse]? = some k then absOf m k
        else (if p.test k then none else (absOf m k).map (bumpE k p.add)))) := by
  refine (drainFilterFused_spec hR m p fuse o h).mono fun r hs => ?_
  obtain ⟨hi, hfired, hret, ha, hnd, hcov⟩ := hs
  refine ⟨hi, hfired, hret, fun k => ?_⟩
  rw [ha]
  split
  · -- no other call has the key of the panicking one: it was not visited
    next hk =>
    rw [specDrain, if_neg]
    intro hin
    obtain ⟨i, hne, hi⟩ := List.mem_eraseIdx_iff_getElem?.1 hin
    exact hne ((List.getElem?_inj (List.getElem?_eq_some_iff.1 hi).1 hnd).1 (hi.trans hk.symm))
  · -- visited, or not a key of the map at all
    next hk =>
    refine specDrain_all k fun hnin => (absOf_none_iff m k).2 fun hin => hnin ?_
    obtain ⟨i, hi⟩ := List.mem_iff_getElem?.1 ((hcov k).2 hin)
    exact List.mem_eraseIdx_iff_getElem?.2 ⟨i, fun hif => hk (hif ▸ hi), hi⟩

/-- **A panicking `or_insert_with*` / `and_modify` closure changes nothing.**  The closure of an inserting entry
    call is reached exactly when the key is absent, that of a modifying call exactly when it is present; the map
    afterwards is the map before (so `Inv`, contents, both tables, the cursor), and the only object the unwinding
    drops is the key handed to `entry` — no element is lost, which is stronger than the "at most the element handed
    to the closure" C07 allows. -/
theorem entry_call_closure_panic_safe {R : Nat} (m : Map) (k kid : Nat) (raw inserting : Bool) (h : Inv R m) :
    let r := Map.entryFused m k kid raw inserting
    r.1 = m ∧ Inv R r.1 ∧
    (r.2.2 = true ↔ (if inserting then absOf m k = none else (absOf m k).isSome)) ∧
    (∀ k', absOf r.1 k' = absOf m k') ∧
    (idsOf r.1.ents ++ r.2.1.cost.dropped).Perm (idsOf m.ents ++ (if raw then [] else [kid])) := by
  refine ⟨rfl, h, ?_, fun _ => rfl, List.Perm.refl _⟩
  simp only [Map.entryFused]
  rcases find_abs_cases m k with ⟨hf, ha, -⟩ | ⟨loc, e, hf, ha⟩
  · cases inserting <;> simp [hf, ha]
  · cases inserting <;> simp [hf, ha]

/-- **A panicking `Eq` changes nothing**: whichever of `insert`, `remove`, `get`, `get_mut`, `entry(k).or_insert(v)`
    it interrupts, the map afterwards is the map before — every element still there, found, with the value it had —
    and the only objects dropped are the ones the caller passed by value (none for the lookups and `remove`). -/
theorem eq_panic_safe {R : Nat} (c : Cfg) (kind : Nat) (m : Map) (e : Entry) (o : Orc) (h : Inv R m) :
    ∃ out, Map.eqFused c kind m e true o = .ok (m, out, true) ∧ Inv R m ∧
      out.returned = [] ∧ out.cost.allocs = 0 ∧ out.cost.moved = 0 ∧
      (out.cost.dropped = e.ids ∨ out.cost.dropped = []) ∧
      (idsOf m.ents ++ out.returned ++ out.cost.dropped).Perm (idsOf m.ents ++ (if kind = 0 ∨ kind = 3 then e.ids else [])) := by
  refine ⟨_, rfl, h, rfl, rfl, rfl, ?_, ?_⟩
  · by_cases hk : kind = 0 ∨ kind = 3
    · exact .inl (if_pos hk)
    · exact .inr (if_neg hk)
  · rw [List.append_nil]

end Griddle.C07
