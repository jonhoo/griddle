/-
  C10 — Capacity-management calls honour their contracts, including at usize limits.
-/
import GriddleModel.Props.C01
import GriddleModel.Props.C04
namespace Griddle.C10

/-- `with_capacity(n)`: capacity ≥ n (or the documented overflow panic / OOM abort). -/
theorem with_capacity_spec (c : Cfg) (cap : Nat) :
    OkOrCap (Raw.withCapacity c cap) (fun r => Inv c.R r.1 ∧ r.1.ents = [] ∧ cap ≤ r.1.capacity) :=
  C01.inv_withCapacity c cap

/-- After `reserve(n)`: `capacity() ≥ len() + n`, contents unchanged; the only failures are the
    documented capacity-overflow panic and an OOM abort — it never returns having reserved less. -/
theorem reserve_contract (c : Cfg) (hR : 0 < c.R) (t : Raw) (n hits : Nat) (perm : List Nat) (h : Inv c.R t) :
    OkOrCap (Raw.reserve c t n hits perm) (fun r =>
      Inv c.R r.1 ∧ r.1.ents.Perm t.ents ∧ r.1.len + n ≤ r.1.capacity) :=
  (reserve_spec c hR t n hits perm h).mono (fun _ hs => ⟨hs.1, hs.2.1, hs.2.2.1⟩)

/-- `try_reserve(n)`: never panics or aborts; `Ok` ⇒ `capacity() ≥ len() + n`; `Err` ⇒ contents
    unchanged.  `c.debug` is universally quantified: the statement is the same in both profiles. -/
theorem try_reserve_contract (c : Cfg) (hR : 0 < c.R) (t : Raw) (n hits : Nat) (perm : List Nat) (h : Inv c.R t) :
    OkOr (Raw.tryReserve c t n hits perm) (fun r =>
      Inv c.R r.1 ∧ r.1.ents.Perm t.ents ∧ (r.2.1 = none → r.1.len + n ≤ r.1.capacity)) :=
  (tryReserve_spec c hR t n hits perm h).mono fun _ hs => ⟨hs.1, hs.2.1, hs.2.2.2.2⟩

/-- When `len() + n` itself overflows `usize`, `try_reserve` reports `CapacityOverflow` and leaves
    the map exactly as it was; `reserve` panics with the documented message. -/
theorem overflow_reported (c : Cfg) (t : Raw) (n hits : Nat) (perm : List Nat)
    (hov : USIZE ≤ (match t.lo with | some o => o.ents.length | none => 0) + n) :
    Raw.tryReserve c t n hits perm = .ok (t, some .overflow, {}) ∧
    Raw.reserve c t n hits perm = .error (.panic .capacityOverflow) := by
  have ht : Raw.tryReserve c t n hits perm = .ok (t, some .overflow, {}) := by
    unfold Raw.tryReserve; exact if_pos hov
  rw [Raw.reserve_eq_fatal, ht]
  exact ⟨rfl, rfl⟩

/-- After `reserve(n)` the next `n` unseen keys are inserted without allocating (C04's
    fill-to-capacity applies: `n ≤ capacity() - len()`). -/
theorem reserve_then_fill (c : Cfg) (hR : 0 < c.R) (hits : Nat → Nat) (t : Raw) (h : Inv c.R t) (n : Nat)
    (hcap : t.len + n ≤ t.capacity) (es : List Entry) (hlen : es.length = n)
    (hnd : (keysOf es).Nodup) (hfresh : ∀ e ∈ es, e.k ∉ keysOf t.ents) :
    OkOr (C04.fill c t es hits) (fun r => Inv c.R r.1 ∧ r.2 = 0 ∧ r.1.main.buckets = t.main.buckets) :=
  (C04.fill_to_capacity c hR hits es t h hnd hfresh (by unfold C04.room; omega)).mono
    fun _ hf => ⟨hf.1, hf.2.1, hf.2.2.2.1⟩

/-- `shrink_to(m)` / `shrink_to_fit` (m = 0): contents kept, invariant kept, never more buckets,
    `capacity() ≥ max(len(), min(m, previous capacity()))`. -/
theorem shrink_contract (c : Cfg) (hR : 0 < c.R) (t : Raw) (m : Nat) (h : Inv c.R t)
    (hsmall : t.len + t.len + 1 < USIZE) :
    OkOrCap (Raw.shrinkTo c t m) (fun r =>
      Inv c.R r.1 ∧ r.1.ents.Perm t.ents ∧
      (1 ≤ t.main.buckets → r.1.main.buckets ≤ t.main.buckets) ∧
      max r.1.len (min m t.capacity) ≤ r.1.capacity) :=
  (shrinkTo_spec c hR t m h hsmall).mono (fun _ hs => ⟨hs.1, hs.2.1, fun hb => (hs.2.2.1 hb).1, hs.2.2.2.1⟩)

/-- the same without the size hypothesis: it follows from the two invariants -/
theorem shrink_contract_unconditional (c : Cfg) (hR : 0 < c.R) (t : Raw) (m : Nat) (h : Inv c.R t) (hs : Small t) :
    OkOrCap (Raw.shrinkTo c t m) (fun r =>
      Inv c.R r.1 ∧ Small r.1 ∧ r.1.ents.Perm t.ents ∧
      (1 ≤ t.main.buckets → r.1.main.buckets ≤ t.main.buckets) ∧
      max r.1.len (min m t.capacity) ≤ r.1.capacity) :=
  ((shrink_contract c hR t m h (small_len h hs)).and (Raw.shrinkTo_small hs m)).mono
    fun _ hc => ⟨hc.1.1, hc.2, hc.1.2⟩

/-- non-vacuity of `overflow_reported`: the historical failing input (14 parked/stored elements,
    `usize::MAX - 15`) -/
example : USIZE ≤ (14 : Nat) + (2 ^ 64 - 14) := by decide

end Griddle.C10
