/-
  C13 — HashSet behaves as a mathematical set.

  Single-set histories are map histories on unit values (C01, C09, C12 apply verbatim: `insert`,
  `remove`, `take`, `contains`, `get`, `retain`, `drain`, `drain_filter`, `extend`, `clear`,
  `replace` / `get_or_insert*` through the raw-entry chains).  This file proves the algebra:
  for ANY two sets in ANY states satisfying the invariant (each operand independently in any
  resize phase), with ANY iteration orders of the shape the real iterators have, `union`,
  `intersection`, `difference`, `symmetric_difference` yield each result element exactly once
  and have exactly the mathematical membership — for both operand orders, so the smaller/larger
  swap inside `union` / `intersection` is covered — and `is_subset`, `is_superset`,
  `is_disjoint` decide the mathematical relations.  `==` is `C14.eq_iff_same_contents`.
  The operator forms `| & ^ -` collect these sequences into a fresh set (`from_iter` = inserts).
-/
import GriddleModel.Set
import GriddleModel.Lemmas.Retain
namespace Griddle.C13
open SetAlg

/-- a faithful view: duplicate-free iteration, `contains` = membership in it, exact length -/
structure Faithful (a : View) : Prop where
  nodup : a.iter.Nodup
  mem : ∀ k, a.mem k = true ↔ k ∈ a.iter
  len : a.len = a.iter.length

/-- **Every set in every resize phase is viewed faithfully** by its iterator and `contains`. -/
theorem faithful_of_inv {R : Nat} (m : Map) (order : List Nat) (h : Inv R m)
    (hok : Map.iterOrderOk m order = true) : Faithful (viewOf m order) := by
  have hperm := keys_of_iterOrderOk h hok
  refine ⟨hperm.nodup_iff.2 h.nodup, fun k => ?_, ?_⟩
  · show (m.find k).isSome = true ↔ k ∈ order
    rw [hperm.mem_iff, ← not_iff_not, Option.not_isSome_iff_eq_none]
    exact find_none_iff m k
  · show m.len = order.length
    rw [Raw.len_eq, hperm.length_eq, keysOf, List.length_map]

theorem mem_false {a : View} (ha : Faithful a) (k : Nat) : a.mem k = false ↔ k ∉ a.iter := by
  rw [← ha.mem k, Bool.not_eq_true]

theorem difference_spec (a b : View) (ha : Faithful a) (hb : Faithful b) :
    (difference a b).Nodup ∧ ∀ k, k ∈ difference a b ↔ k ∈ a.iter ∧ k ∉ b.iter :=
  ⟨ha.nodup.filter _, fun k => by rw [difference, List.mem_filter, Bool.not_eq_true', mem_false hb]⟩

theorem intersection_spec (a b : View) (ha : Faithful a) (hb : Faithful b) :
    (intersection a b).Nodup ∧ ∀ k, k ∈ intersection a b ↔ k ∈ a.iter ∧ k ∈ b.iter := by
  unfold intersection
  split
  · exact ⟨ha.nodup.filter _, fun k => by rw [List.mem_filter, hb.mem]⟩
  · exact ⟨hb.nodup.filter _, fun k => by rw [List.mem_filter, ha.mem, and_comm]⟩

/-- what `union` yields with `b` as the operand iterated in full: `b.iter().chain(a.difference(b))` -/
theorem chain_difference (a b : View) (ha : Faithful a) (hb : Faithful b) :
    (b.iter ++ difference a b).Nodup ∧ ∀ k, k ∈ b.iter ++ difference a b ↔ k ∈ a.iter ∨ k ∈ b.iter := by
  obtain ⟨hnd, hmem⟩ := difference_spec a b ha hb
  refine ⟨List.nodup_append.2 ⟨hb.nodup, hnd, fun x hx y hy hxy => ?_⟩, fun k => ?_⟩
  · subst hxy
    exact ((hmem x).1 hy).2 hx
  · rw [List.mem_append, hmem k]
    by_cases hk : k ∈ b.iter <;> simp [hk]

theorem union_spec (a b : View) (ha : Faithful a) (hb : Faithful b) :
    (union a b).Nodup ∧ ∀ k, k ∈ union a b ↔ k ∈ a.iter ∨ k ∈ b.iter := by
  unfold union
  split
  · exact chain_difference a b ha hb
  · exact (chain_difference b a hb ha).imp_right fun h k => (h k).trans or_comm

theorem symmetric_difference_spec (a b : View) (ha : Faithful a) (hb : Faithful b) :
    (symmetricDifference a b).Nodup ∧
    ∀ k, k ∈ symmetricDifference a b ↔ (k ∈ a.iter ∧ k ∉ b.iter) ∨ (k ∈ b.iter ∧ k ∉ a.iter) := by
  unfold symmetricDifference
  have dab := difference_spec a b ha hb
  have dba := difference_spec b a hb ha
  refine ⟨List.nodup_append.2 ⟨dab.1, dba.1, fun x hx y hy hxy => ?_⟩, fun k => ?_⟩
  · subst hxy
    exact ((dba.2 x).1 hy).2 ((dab.2 x).1 hx).1
  · rw [List.mem_append, dab.2 k, dba.2 k]

theorem is_disjoint_spec (a b : View) (hb : Faithful b) :
    isDisjoint a b = true ↔ ∀ k, k ∈ a.iter → k ∉ b.iter := by
  simp only [isDisjoint, List.all_eq_true, Bool.not_eq_true', mem_false hb]

theorem is_subset_spec (a b : View) (ha : Faithful a) (hb : Faithful b) :
    isSubset a b = true ↔ ∀ k, k ∈ a.iter → k ∈ b.iter := by
  unfold isSubset
  rw [Bool.and_eq_true, List.all_eq_true, decide_eq_true_eq, ha.len, hb.len]
  simp only [hb.mem]
  -- the length test `is_subset` makes first is implied: a duplicate-free list inside another is no longer
  exact ⟨fun h => h.2, fun h => ⟨ha.nodup.length_le_of_subset h, h⟩⟩

theorem is_superset_spec (a b : View) (ha : Faithful a) (hb : Faithful b) :
    isSuperset a b = true ↔ ∀ k, k ∈ b.iter → k ∈ a.iter :=
  is_subset_spec b a hb ha

/-- commutativity as sets: both operand orders give the same members -/
theorem union_comm_mem (a b : View) (ha : Faithful a) (hb : Faithful b) (k : Nat) :
    k ∈ union a b ↔ k ∈ union b a := by
  rw [(union_spec a b ha hb).2 k, (union_spec b a hb ha).2 k]; exact Or.comm

theorem intersection_comm_mem (a b : View) (ha : Faithful a) (hb : Faithful b) (k : Nat) :
    k ∈ intersection a b ↔ k ∈ intersection b a := by
  rw [(intersection_spec a b ha hb).2 k, (intersection_spec b a hb ha).2 k]; exact And.comm

/-- non-vacuity: one operand mid-resize, the other not; the smaller/larger swap exercised -/
example :
    let a := viewOf { main := { buckets := 8, ents := [⟨1, 0, 0, 0⟩, ⟨2, 0, 0, 0⟩], gl := 5 }, lo := none } [1, 2]
    let b := viewOf { main := { buckets := 16, ents := [⟨9, 0, 0, 0⟩], gl := 9 },
                      lo := some { buckets := 4, ents := [⟨2, 0, 0, 0⟩, ⟨3, 0, 0, 0⟩], cursor := 2 } } [9, 2, 3]
    (union a b, intersection a b, difference a b, symmetricDifference a b, isSubset a b, isDisjoint a b)
      = ([1, 2, 9, 3], [2], [1], [1, 9, 3], false, false) := by
  intros; rfl

end Griddle.C13
