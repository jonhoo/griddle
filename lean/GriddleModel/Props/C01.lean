/-
  C01 — HashMap is observationally a sequential key-value map in every resize phase.

  `run_refines`: every history over {insert, get*, get_mut+write, remove*, clear, reserve,
  try_reserve, shrink_to} started in ANY state satisfying the invariant (= any resize phase:
  none, just started, partly moved, old table emptied by removals or in place) and run with ANY
  oracle resolution (= any hasher, placement, tombstone pattern, iteration order) either ends in a
  documented capacity-overflow panic / OOM abort of a growth or yields the reference map's return
  values and contents.  The invariant holds initially (`inv_new`, `inv_withCapacity`).

  PARTIAL with respect to the property's op list: entry / raw-entry chains are in C12, retain /
  drain_filter in C09, iterators and drain in C08, clone in C11, extend / from_iter are
  `reserve` followed by `insert`s (map.rs:3099-3115) and covered as such.
-/
import GriddleModel.Lemmas.Small
namespace Griddle.C01

theorem inv_new (R : Nat) : Inv R Raw.new :=
  .of_unsplit (by simp [HB.WF, fullCap]) (by simp [keysOf])

theorem inv_withCapacity (c : Cfg) (cap : Nat) :
    OkOrCap (Raw.withCapacity c cap) (fun r => Inv c.R r.1 ∧ r.1.ents = [] ∧ cap ≤ r.1.capacity) := by
  unfold Raw.withCapacity
  cases h : HB.tryWithCapacity c cap with
  | error e => cases e <;> [exact .overflow; exact .abort]
  | ok t =>
    obtain ⟨h1, h2, h3, _⟩ := HB.tryWithCapacity_spec c cap t h
    refine .ok ⟨.of_unsplit h2 (by simp [h1, keysOf]), by simp [Raw.ents, h1], ?_⟩
    simp only [Raw.capacity, HB.capacity]; omega

/-- **One call refines the reference map**: for every invariant state, argument and oracle the
    call either ends with the documented capacity-overflow panic / OOM abort of a growth, or yields
    an invariant state denoting the reference result and returns the reference's value. -/
theorem step_refines (c : Cfg) (hR : 0 < c.R) (m : Map) (op : Op) (o : Orc) (h : Inv c.R m) (hp : pre m op) :
    OkOrCap (step c m op o) (fun r =>
      Inv c.R r.1 ∧ (∀ k, absOf r.1 k = (specStep (absOf m) op).1 k) ∧
      (∀ ret, (specStep (absOf m) op).2 = some ret → r.2.ret = ret)) :=
  Griddle.step_refines c hR m op o h hp

/-- **Every history refines the reference map**, from any invariant state, for every oracle
    resolution. -/
theorem run_refines (c : Cfg) (hR : 0 < c.R) (orcs : Nat → Orc) (ops : List Op) (m : Map)
    (h : Inv c.R m) (hpre : runPre c m ops orcs) :
    OkOrCap (run c m ops orcs) (fun r =>
      Inv c.R r.1 ∧ (∀ k, absOf r.1 k = (specRun (absOf m) ops).1 k) ∧
      retsAgree r.2 (specRun (absOf m) ops).2) :=
  Griddle.run_refines c hR orcs ops m h hpre

/-- Every map a program can construct starts with a main table that passed hashbrown's layout
    check (or is the unallocated singleton): `new` (`small_new`), `with_capacity`. -/
theorem small_withCapacity (c : Cfg) (cap : Nat) (r : Raw × Cost) (h : Raw.withCapacity c cap = .ok r) :
    Small r.1 := by
  unfold Raw.withCapacity at h
  split at h <;> cases h
  exact (HB.tryWithCapacity_small c cap).apply ‹_›

/-- **Every history refines the reference map — no side condition.**  The size invariant
    (`Small`: the main table passed the layout check, so it has fewer than `2^63` buckets) is
    established by `new` / `with_capacity` and preserved by every call (`step_small`); with the
    headroom invariant it makes `shrink_to`'s unchecked sums fit a `usize`, which discharges
    `runPre`. -/
theorem run_refines_unconditional (c : Cfg) (hR : 0 < c.R) (orcs : Nat → Orc) (ops : List Op) (m : Map)
    (h : Inv c.R m) (hs : Small m) :
    OkOrCap (run c m ops orcs) (fun r =>
      Inv c.R r.1 ∧ (∀ k, absOf r.1 k = (specRun (absOf m) ops).1 k) ∧
      retsAgree r.2 (specRun (absOf m) ops).2) :=
  Griddle.run_refines c hR orcs ops m h (runPre_of_small c hR orcs ops m h hs)

/-- in particular from a fresh map -/
theorem run_refines_from_new (c : Cfg) (hR : 0 < c.R) (orcs : Nat → Orc) (ops : List Op) :
    OkOrCap (run c Raw.new ops orcs) (fun r =>
      Inv c.R r.1 ∧ (∀ k, absOf r.1 k = (specRun (fun _ => none) ops).1 k) ∧
      retsAgree r.2 (specRun (fun _ => none) ops).2) :=
  run_refines_unconditional c hR orcs ops Raw.new (inv_new c.R) small_new

/-- `len()` is the number of stored entries, `is_empty()` accordingly -/
theorem len_eq_card (t : Raw) : t.len = t.ents.length := Raw.len_eq t

/-- lookups compute the abstraction wherever the element lives -/
theorem find_eq_abs {R : Nat} {t : Raw} (h : Inv R t) (k : Nat) : (t.find k).map (·.2) = absOf t k :=
  Griddle.find_eq_abs h k

/-- non-vacuity: a partly-moved state with tombstones satisfies the invariant, and a lookup of a
    key parked in the old table finds it -/
example :
    let t : Raw := { main := { buckets := 16, ents := [⟨1, 10, 5, 11⟩, ⟨9, 12, 6, 13⟩], gl := 7 },
                     lo := some { buckets := 8, ents := [⟨2, 14, 7, 15⟩, ⟨3, 16, 8, 17⟩], cursor := 2 } }
    Inv 8 t ∧ (t.find 3).map (·.2.v) = some 8 ∧ (t.find 9).map (·.1.inMain) = some true := by
  refine ⟨⟨by simp [HB.WF, fullCap], ?_, ?_, by decide⟩, by decide, by decide⟩
  · intro o ho; cases ho; rfl
  · intro o ho; cases ho; simp [ceilDiv]

end Griddle.C01
