/-
  C14 — Observable behaviour depends only on contents, not on layout or history.

  `==` is decided by the abstract contents alone (`eq_iff_same_contents`): two maps in ANY two
  states satisfying the invariant — any capacities, resize phases, tombstone patterns, iteration
  orders, hasher states — compare equal iff they denote the same key→value function.  Hence it is
  reflexive, symmetric and transitive and false whenever some key or value differs.  `len`, `get`
  and the iterators are functions of the contents by C01 / C08.
-/
import GriddleModel.Lemmas.Steps
namespace Griddle.C14

/-- the value a map associates with a key -/
def valOf (t : Raw) (k : Nat) : Option Nat := (absOf t k).map (·.v)

theorem valOf_mem {R : Nat} {t : Raw} (h : Inv R t) {e : Entry} (he : e ∈ t.ents) : valOf t e.k = some e.v := by
  unfold valOf
  rw [show absOf t e.k = some e from find_key_of_mem h.nodup he]
  rfl

theorem valOf_eq_none {t : Raw} {k : Nat} : valOf t k = none ↔ k ∉ keysOf t.ents := by
  unfold valOf
  rw [Option.map_eq_none_iff]
  exact absOf_none_iff t k

/-- the lookup `==` makes in its right operand, for an entry `(k, v)` of the left one -/
theorem find_val (b : Raw) (k v : Nat) :
    (match b.find k with | some (_, e') => e'.v == v | none => false) = true ↔ valOf b k = some v := by
  unfold valOf
  rw [← find_snd b k]
  cases b.find k with
  | none => simp
  | some p => simp

/-- **`==` is decided by contents alone.** -/
theorem eq_iff_same_contents {R R' : Nat} (a b : Map) (ha : Inv R a) (hb : Inv R' b) :
    Map.eq a b = true ↔ ∀ k, valOf a k = valOf b k := by
  have heq : Map.eq a b = true ↔
      a.ents.length = b.ents.length ∧ ∀ e ∈ a.ents, valOf b e.k = some e.v := by
    unfold Map.eq
    rw [Bool.and_eq_true, List.all_eq_true, Raw.len_eq, Raw.len_eq, beq_iff_eq]
    exact and_congr_right fun _ => forall₂_congr fun e _ => find_val b e.k e.v
  rw [heq]
  constructor
  · rintro ⟨hlen, hall⟩ k
    -- the keys of `a` are among those of `b`, and there are as many of them: they are the same keys
    have hperm : (keysOf a.ents).Perm (keysOf b.ents) := by
      refine keys_perm_of_length (by rw [keysOf, List.length_map, hlen]) ha.nodup fun k hk => ?_
      obtain ⟨e, he, rfl⟩ := List.mem_map.1 hk
      refine Decidable.by_contra fun hn => ?_
      rw [← valOf_eq_none, hall e he] at hn
      cases hn
    by_cases hk : k ∈ keysOf a.ents
    · obtain ⟨e, he, rfl⟩ := List.mem_map.1 hk
      rw [valOf_mem ha he, hall e he]
    · rw [valOf_eq_none.2 hk, valOf_eq_none.2 fun h => hk (hperm.mem_iff.2 h)]
  · intro hval
    have hperm : (keysOf a.ents).Perm (keysOf b.ents) :=
      (List.perm_ext_iff_of_nodup ha.nodup hb.nodup).2 fun k => by
        rw [← not_iff_not, ← valOf_eq_none, ← valOf_eq_none, hval k]
    refine ⟨by simpa [keysOf] using hperm.length_eq, fun e he => ?_⟩
    rw [← hval e.k, valOf_mem ha he]

theorem eq_refl {R : Nat} (a : Map) (ha : Inv R a) : Map.eq a a = true :=
  (eq_iff_same_contents a a ha ha).2 (fun _ => rfl)

theorem eq_symm {R R' : Nat} (a b : Map) (ha : Inv R a) (hb : Inv R' b) :
    Map.eq a b = Map.eq b a := by
  rw [Bool.eq_iff_iff, eq_iff_same_contents a b ha hb, eq_iff_same_contents b a hb ha]
  exact forall_congr' fun _ => eq_comm

theorem eq_trans {R : Nat} (a b c : Map) (ha : Inv R a) (hb : Inv R b) (hc : Inv R c)
    (hab : Map.eq a b = true) (hbc : Map.eq b c = true) : Map.eq a c = true :=
  (eq_iff_same_contents a c ha hc).2 (fun k =>
    ((eq_iff_same_contents a b ha hb).1 hab k).trans ((eq_iff_same_contents b c hb hc).1 hbc k))

/-- `==` is false whenever some key or value differs -/
theorem ne_of_differs {R : Nat} (a b : Map) (ha : Inv R a) (hb : Inv R b) (k : Nat) (hd : valOf a k ≠ valOf b k) :
    Map.eq a b = false :=
  Bool.eq_false_iff.2 fun h => hd ((eq_iff_same_contents a b ha hb).1 h k)

/-- layout independence: two states with permuted storage (different tables, orders) denote the
    same contents, hence are equal under `==` -/
theorem eq_of_perm {R : Nat} (a b : Map) (ha : Inv R a) (hb : Inv R b) (hp : a.ents.Perm b.ents) :
    Map.eq a b = true :=
  (eq_iff_same_contents a b ha hb).2 (fun k => by unfold valOf; rw [absOf_perm hp hb.nodup k])

/-- non-vacuity: the same two pairs, once in one table, once split across two, compare equal -/
example : Map.eq { main := { buckets := 4, ents := [⟨1, 0, 5, 0⟩, ⟨2, 0, 6, 0⟩], gl := 1 }, lo := none }
                 { main := { buckets := 8, ents := [⟨2, 9, 6, 9⟩], gl := 5 },
                   lo := some { buckets := 4, ents := [⟨1, 7, 5, 7⟩], cursor := 1 } } = true := rfl

end Griddle.C14
