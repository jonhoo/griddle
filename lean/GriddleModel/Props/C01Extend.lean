/-
  C01 (continued) — `extend` / `from_iter` (`Map.extend`): the hinted `reserve`, then one `insert` per pair.

    * `extend_refines` — from any state with the invariant, for any stream of pairs (duplicate keys, keys already
      present, in any resize phase) and any oracle: either the documented capacity-overflow panic / OOM abort of a
      growth, or the invariant holds again and the contents are those of the reference map fed the same pairs in
      order (a later pair overrides an earlier one; an overwritten key keeps its first key OBJECT, as
      `HashMap::insert` documents);
    * (in `extend_refines`) every object is conserved: stored ⊎ dropped afterwards = stored before ⊎ passed in;
      nothing is handed back by `extend`;
    * `extend_small` — the size invariant `Small` is preserved, so `extend` may be added to the histories of
      `run_refines_unconditional`.
-/
import GriddleModel.Lemmas.Small
import GriddleModel.Lemmas.EntryLedger
namespace Griddle.C01

/-- the reference map's `extend`: one `insert` per pair, in order -/
def specExtend (a : Nat → Option Entry) : List Entry → Nat → Option Entry
  | [] => a
  | e :: rest => specExtend (match a e.k with
                             | some _ => specUpd a e.k e.v e.vid
                             | none => specIns a e) rest

theorem specExtend_fresh : ∀ (items : List Entry) (a : Nat → Option Entry), (keysOf items).Nodup →
    (∀ e ∈ items, a e.k = none) → ∀ k, specExtend a items k = (lookupIn items k).or (a k) := by
  intro items
  induction items with
  | nil => intro a _ _ k; rfl
  | cons e rest ih =>
    intro a hnd hfresh k
    rw [keysOf_cons_nodup] at hnd
    have hfresh' : ∀ x ∈ rest, specIns a e x.k = none := fun x hx => by
      have hne : x.k ≠ e.k := fun heq => hnd.1 (heq ▸ mem_keysOf hx)
      rw [specIns, if_neg hne]
      exact hfresh x (List.mem_cons_of_mem _ hx)
    rw [specExtend, hfresh e List.mem_cons_self]
    dsimp only
    rw [ih (specIns a e) hnd.2 hfresh' k, specIns, lookupIn_cons]
    split
    · next hk => rw [hk, show lookupIn rest e.k = none from find_key_none.2 hnd.1]; rfl
    · rfl

theorem extendLoop_spec (c : Cfg) (hR : 0 < c.R) (orc : Map → Nat → Orc) :
    ∀ (items : List Entry) (m : Map) (cost : Cost), Inv c.R m →
      OkOrCap (Map.extendLoop c orc m items cost) (fun r =>
        Inv c.R r.1 ∧ (∀ k, absOf r.1 k = specExtend (absOf m) items k) ∧
        (ms (idsOf r.1.ents) + ms r.2.dropped = ms (idsOf m.ents) + ms cost.dropped + ms (items.flatMap Entry.ids))) := by
  intro items
  induction items with
  | nil =>
    intro m cost h
    exact .ok ⟨h, fun _ => rfl, (Multiset.add_zero _).symm⟩
  | cons e rest ih =>
    intro m cost h
    unfold Map.extendLoop
    have hs := Map.insert_spec c hR m e (orc m rest.length) h
    refine hs.elim (fun _ => id) fun r hr => ?_
    obtain ⟨⟨m1, out⟩, hi1, ha1, -, -, -, -, -, -, -, hled⟩ := r, hr
    dsimp only at hi1 ha1 hled ⊢
    have h2 := ih m1 (cost + out.cost + { dropped := out.returned }) hi1
    refine h2.mono fun q hq => ?_
    obtain ⟨hi2, ha2, hl2⟩ := hq
    refine ⟨hi2, fun k => ?_, ?_⟩
    · have hfun : absOf m1 = (match absOf m e.k with
                               | some _ => specUpd (absOf m) e.k e.v e.vid
                               | none => specIns (absOf m) e) := by
        funext k'
        rw [ha1 k']
        cases absOf m e.k <;> rfl
      rw [ha2 k, hfun]
      rfl
    · have hp := ms_perm.1 hled
      simp only [ms_append, Cost.add_dropped, List.flatMap_cons] at hp hl2 ⊢
      -- regrouped so that the ledger `hp` of the one `insert` applies
      calc _ = ms (idsOf m1.ents) + ms out.returned + ms out.cost.dropped +
                (ms cost.dropped + ms (rest.flatMap Entry.ids)) := by rw [hl2]; abel
        _ = _ := by rw [hp]; exact add_add_add_comm _ _ _ _

/-- **`extend` refines the reference map** and conserves every object -/
theorem extend_refines (c : Cfg) (hR : 0 < c.R) (m : Map) (items : List Entry) (hint : Nat) (orc : Map → Nat → Orc)
    (h : Inv c.R m) :
    OkOrCap (Map.extend c m items hint orc) (fun r =>
      Inv c.R r.1 ∧ (∀ k, absOf r.1 k = specExtend (absOf m) items k) ∧
      (idsOf r.1.ents ++ r.2.cost.dropped).Perm (idsOf m.ents ++ items.flatMap Entry.ids) ∧ r.2.returned = []) := by
  unfold Map.extend Map.reserve
  dsimp only
  have hs := reserve_spec c hR m (if m.len = 0 then hint else hint / 2 + hint % 2)
    (orc m items.length).hits (orc m items.length).perm h
  refine hs.elim (fun _ => id) fun r hr => ?_
  obtain ⟨⟨m1, cost1⟩, hi1, hp1, -, -, hd1⟩ := r, hr
  dsimp only at hi1 hp1 hd1 ⊢
  have h2 := extendLoop_spec c hR orc items m1 cost1 hi1
  refine h2.elim (fun _ => id) fun q hq => ?_
  obtain ⟨hi2, ha2, hl2⟩ := hq
  refine .ok ⟨hi2, fun k => ?_, ?_, rfl⟩
  · rw [ha2 k, funext (absOf_perm hp1 h.nodup)]
  · rw [ms_perm, ms_append, ms_append, hl2, hd1, ms_nil, add_zero, ms_perm.1 (idsOf_perm hp1)]

theorem extendLoop_small (c : Cfg) (orc : Map → Nat → Orc) :
    ∀ (items : List Entry) (m : Map) (cost : Cost), Small m → IfOk (Map.extendLoop c orc m items cost) (Small ·.1) := by
  intro items
  induction items with
  | nil => exact fun _ _ hs => .ok hs
  | cons e rest ih =>
    intro m cost hs
    unfold Map.extendLoop
    exact (Map.insert_small hs e _).elim (fun _ => .error) fun _ h => ih _ _ h

/-- **`extend` preserves the size invariant** (so `shrink_to`'s `2·len + 1` never wraps after it either) -/
theorem extend_small (c : Cfg) (m : Map) (items : List Entry) (hint : Nat) (orc : Map → Nat → Orc) (r : Map × Out)
    (hs : Small m) (h : Map.extend c m items hint orc = .ok r) : Small r.1 := by
  suffices IfOk (Map.extend c m items hint orc) (Small ·.1) from this.apply h
  unfold Map.extend
  dsimp only
  refine (Map.reserve_small hs _ _).elim (fun _ => .error) fun ⟨m1, out1⟩ h1 => ?_
  dsimp only
  exact (extendLoop_small c orc items m1 _ h1).elim (fun _ => .error) fun _ h => .ok h

/-- non-vacuity: a map with {1 ↦ 5} extended with (1, 6), (2, 7), (2, 8): key 1 keeps its key object 10 and gets value
    6, key 2 is stored with the key object of its FIRST pair and the value of its last; three objects are dropped -/
example :
    let m : Map := { main := { buckets := 8, ents := [⟨1, 10, 5, 11⟩], gl := 5 }, lo := none }
    (match Map.extend { R := 8 } m [⟨1, 20, 6, 21⟩, ⟨2, 22, 7, 23⟩, ⟨2, 24, 8, 25⟩] 3 (fun _ _ => {}) with
     | .ok (m', out) => (m'.ents.map (fun e => (e.k, e.kid, e.v, e.vid)), out.cost.dropped)
     | .error _ => ([], [])) = ([(2, 22, 8, 25), (1, 10, 6, 21)], [20, 11, 24, 23]) := by
  intros; rfl

/-- the rounding `extend` uses is the one its comment promises — half the hint, rounded up — and stays below the
    hint, so it is representable whenever the hint is (no overflow for any `usize` hint) -/
theorem extend_hint_rounding (hint : Nat) : hint / 2 + hint % 2 = (hint + 1) / 2 ∧ hint / 2 + hint % 2 ≤ hint := by
  omega

end Griddle.C01
