/-
  C03 — A started resize finishes within ⌈L/R⌉ insertions and frees the old table.
-/
import GriddleModel.Props.C04
import GriddleModel.Props.C08
import GriddleModel.Lemmas.Steps
namespace Griddle.C03

/-- the number of elements still parked in the old table -/
def pending (t : Raw) : Nat := match t.lo with | some o => o.ents.length | none => 0

theorem pending_eq (t : Raw) : pending t = (oldEnts t).length := by
  unfold pending oldEnts; cases t.lo <;> rfl

/-- A key-adding `insert` (new key, or overwrite of an element still in the old table) while `L`
    elements are parked moves exactly `min R L` of them; the old table is released in that call
    iff `L ≤ R`; no new growth can start meanwhile (at most one allocation, none while parked). -/
theorem key_adding_moves (c : Cfg) (hR : 0 < c.R) (m : Map) (e : Entry) (o : Orc) (h : Inv c.R m)
    (ol : Old) (hol : m.lo = some ol) (hadd : absOf m e.k = none ∨ ∃ x, x ∈ ol.ents ∧ x.k = e.k) :
    OkOrCap (Map.insert c m e o) (fun r =>
      r.2.cost.moved = min c.R ol.ents.length ∧ pending r.1 = ol.ents.length - min c.R ol.ents.length ∧
      (ol.ents.length ≤ c.R ↔ r.1.lo = none)) :=
  (Map.insert_spec c hR m e o h).mono (fun r hs => by
    obtain ⟨_, _, _, _, _, _, _, _, h9, _⟩ := hs
    obtain ⟨a, b, d⟩ := h9 ol hol hadd
    by_cases hle : ol.ents.length ≤ c.R
    · have hn := b hle
      refine ⟨a, ?_, fun _ => hn, fun _ => hle⟩
      rw [pending_eq, oldEnts_of_none hn, Nat.min_eq_right hle, Nat.sub_self, List.length_nil]
    · obtain ⟨o', ho', hl⟩ := d (Nat.lt_of_not_le hle)
      refine ⟨a, ?_, fun h => absurd h hle, fun h => by rw [ho'] at h; cases h⟩
      rw [pending_eq, oldEnts_of_some ho', hl, Nat.min_eq_left (Nat.le_of_not_le hle)])

/-- Removing the last parked element releases the old table in that very call (one table freed). -/
theorem remove_last_releases {R : Nat} (hR : 0 < R) (m : Map) (k : Nat) (o : Orc) (h : Inv R m)
    (ol : Old) (hol : m.lo = some ol) (hin : ∃ x, x ∈ ol.ents ∧ x.k = k) (hone : ol.ents.length = 1) :
    ∃ m' out, Map.removeEntry m k o = .ok (m', out) ∧ m'.lo = none ∧ out.cost.frees = 1 := by
  obtain ⟨m', out, hr, _, _, _, _, _, _, _, _, hlast⟩ := Map.removeEntry_spec hR m k o h
  exact ⟨m', out, hr, hlast ol hol hin hone⟩

/-- Lookups and in-place updates never change how much is parked. -/
theorem getMut_keeps_pending (m : Map) (k add : Nat) : pending (Map.getMut m k add).1 = pending m := by
  unfold Map.getMut pending
  cases m.find k with
  | none => rfl
  | some p =>
    obtain ⟨⟨inMain, _⟩, e⟩ := p
    -- the write goes to the entries of one table; which one, and whether there is an old one, does not matter
    cases inMain <;> cases m.lo <;> simp only [Option.map, Bool.false_eq_true, if_false, if_true, List.length_map]

/-- **Finish bound.** From a state with `L` parked elements, `n ≥ ⌈L/R⌉` insertions of unseen
    keys (as long as they fit the current capacity — which `⌈L/R⌉` of them always do, see
    `C04.pending_fits_room`) leave no resize pending; no table is allocated on the way. -/
theorem finish_bound (c : Cfg) (hR : 0 < c.R) (hits : Nat → Nat) (es : List Entry) (t : Raw) (h : Inv c.R t)
    (hnd : (keysOf es).Nodup) (hfresh : ∀ e ∈ es, e.k ∉ keysOf t.ents) (hfit : es.length ≤ C04.room t)
    (hne : es ≠ []) (hn : ceilDiv (pending t) c.R ≤ es.length) :
    OkOr (C04.fill c t es hits) (fun r => r.1.lo = none ∧ r.2 = 0 ∧ Inv c.R r.1) := by
  refine (C04.fill_to_capacity c hR hits es t h hnd hfresh hfit).mono fun r hf => ?_
  obtain ⟨h1, h2, _, _, _, h6⟩ := hf
  refine ⟨h6 hne fun o ho => ?_, h2, h1⟩
  rw [pending_eq, oldEnts_of_some ho] at hn
  exact (ceilDiv_le_iff hR).1 hn

/-- `⌈L/R⌉` insertions always fit: the invariant reserves room for them. -/
theorem finish_fits (c : Cfg) (t : Raw) (h : Inv c.R t) : ceilDiv (pending t) c.R ≤ C04.room t := by
  have := h.head_old
  rw [pending_eq]
  unfold C04.room Raw.capacity HB.capacity
  rw [Raw.len_old]; omega

/-- A map never owns more than two tables: the model's state has one main table and at most one
    old table by construction; `reserve` mid-resize folds the old one in before allocating
    (`reserve_spec`), `try_grow` is only entered without an old table (`grow_of_full_table`). -/
theorem at_most_two_tables (t : Raw) : (if t.main.allocated then 1 else 0) + (if t.lo.isSome then 1 else 0) ≤ 2 := by
  split <;> split <;> omega

/-- `clear()` leaves one table: whatever the phase — also when the old table had been emptied in
    place and `len()` was already 0 — the old table is released. -/
theorem clear_releases {R : Nat} (t : Raw) (h : Inv R t) :
    (Raw.clear t).1.lo = none ∧ (Raw.clear t).1.ents = [] := ⟨(clear_spec t h).2.2.1, (clear_spec t h).2.1⟩

/-- a dropped `drain()` likewise -/
theorem drain_releases {R : Nat} (m : Map) (take : Nat) (forget : Bool) (o : Orc) (h : Inv R m) :
    OkOr (Map.drain m take forget o) (fun r => r.1.lo = none) :=
  (C08.drain_leaves_empty m take forget o h).mono fun _ hs => hs.2.2.1

end Griddle.C03
