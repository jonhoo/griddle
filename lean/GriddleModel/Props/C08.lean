/-
  C08 — Every iterator yields each live element exactly once, with exact length.

  In the model an iterator is the sequence it yields.  `iter()` (and `iter_mut`, `keys`, `values`,
  `values_mut`: projections of the same sequence, so `keys()` and `values()` enumerate in the same
  order by construction) visits the main table in *some* order (oracle) and then the old table in
  cursor order — `iterOrderOk` is exactly that shape, which the lock-step validates against the
  order the real iterator produced.  The theorems: any sequence of that shape is a permutation of
  the stored entries (each exactly once, nothing else), its length is `len()` (so the remaining
  length after `j` steps is `len() - j`), and `drain` — consumed, dropped early or forgotten, at
  any prefix — leaves an empty map satisfying the invariant (hence fully usable, by C01).
-/
import GriddleModel.Lemmas.Retain
namespace Griddle.C08

theorem filterMap_find_keys {es : List Entry} (hnd : (keysOf es).Nodup) :
    (keysOf es).filterMap (fun k => es.find? (fun e => e.k == k)) = es := lookup_keys hnd

theorem perm_of_keys_perm {R : Nat} {m : Map} {ks : List Nat} (h : Inv R m) (hks : ks.Perm (keysOf m.ents)) :
    (ks.filterMap (fun k => (m.find k).map (·.2))).Perm m.ents := by
  rw [funext (find_snd m)]
  exact lookup_keys_perm h.nodup hks

theorem keys_of_drainOrderOk {R : Nat} {m : Map} {order : List Nat} (h : Inv R m)
    (hok : Map.drainOrderOk m order = true) : order.Perm (keysOf m.ents) := by
  unfold Map.drainOrderOk at hok
  extract_lets oldKeys oldPart mainPart at hok
  simp only [Bool.and_eq_true, decide_eq_true_eq] at hok
  obtain ⟨⟨⟨hold, hlen⟩, hnd⟩, hall⟩ := hok
  -- with the old table's part moved to the back it is an order `iter` accepts
  rw [show order = oldPart ++ mainPart from (List.take_append_drop _ _).symm]
  refine List.perm_append_comm.trans (keys_of_iterOrderOk h ?_)
  unfold Map.iterOrderOk
  simp only [← hlen, List.take_left, List.drop_left, hnd, hall, hold, oldKeys, decide_true, Bool.and_self]

/-- **`iter()` yields each stored entry exactly once and nothing else**, in every resize phase:
    any visiting order of the shape the real iterator has is a permutation of the contents. -/
theorem iter_perm {R : Nat} (m : Map) (order : List Nat) (h : Inv R m)
    (hok : Map.iterOrderOk m order = true) :
    (order.filterMap (fun k => (m.find k).map (·.2))).Perm m.ents :=
  perm_of_keys_perm h (keys_of_iterOrderOk h hok)

/-- **`drain()` / `into_iter()` visit each stored entry exactly once** too: their order (old table
    in cursor order first, then some enumeration of the main table) is a permutation of the contents. -/
theorem drain_perm {R : Nat} (m : Map) (order : List Nat) (h : Inv R m)
    (hok : Map.drainOrderOk m order = true) :
    (order.filterMap (fun k => (m.find k).map (·.2))).Perm m.ents :=
  perm_of_keys_perm h (keys_of_drainOrderOk h hok)

/-- exact length: the iterator yields `len()` items, so after `j` calls `len() - j` remain
    (`size_hint` / `len()` of the iterator), and nothing after that -/
theorem iter_length {R : Nat} (m : Map) (order : List Nat) (h : Inv R m)
    (hok : Map.iterOrderOk m order = true) (j : Nat) :
    ((order.filterMap (fun k => (m.find k).map (·.2))).drop j).length = m.len - j := by
  rw [List.length_drop, (iter_perm m order h hok).length_eq, Raw.len_eq]

/-- the sequence `Map.iter` returns is the one characterised above -/
theorem iter_returns {R : Nat} (m : Map) (o : Orc) (h : Inv R m) :
    OkOr (Map.iter m o) (fun out => ∃ es, out.ret = .ents es ∧ es.Perm m.ents ∧ es.length = m.len) := by
  unfold Map.iter
  cases hok : Map.iterOrderOk m o.calls with
  | false => exact ⟨_, rfl⟩
  | true =>
    have hp := iter_perm m o.calls h hok
    exact ⟨_, rfl, hp, by rw [hp.length_eq, Raw.len_eq]⟩

/-- the over-read guard of `drain` / `into_iter` is unreachable under cursor agreement -/
theorem overCount_false {R : Nat} {m : Map} (h : Inv R m) : Map.overCount m = false := by
  unfold Map.overCount
  cases hlo : m.lo with
  | none => rfl
  | some ol => simp [h.agree ol hlo]

theorem drain_spec {R : Nat} (m : Map) (take : Nat) (forget : Bool) (o : Orc) (h : Inv R m) :
    OkOr (Map.drain m take forget o) (fun r => ∃ all : List Entry, all.Perm m.ents ∧
      r.1 = { main := if forget then HB.new else m.main.clearNoDrop, lo := none } ∧
      r.2.ret = .ents (all.take take) ∧ r.2.returned = idsOf (all.take take) ∧
      (forget = false → r.2.cost.dropped = idsOf (all.drop take))) := by
  unfold Map.drain
  cases hok : Map.drainOrderOk m o.calls with
  | false => exact ⟨_, rfl⟩
  | true =>
    cases forget
    · simp only [Bool.not_true, Bool.false_eq_true, if_false, overCount_false h]
      refine .ok ⟨_, drain_perm m o.calls h hok, rfl, rfl, rfl, fun _ => ?_⟩
      cases hlo : m.lo with
      | none => simp [idsOf]
      | some ol => simp [Old.freeCost, h.agree ol hlo, idsOf]
    · simp only [Bool.not_true, Bool.false_eq_true, if_false, if_true, overCount_false h]
      exact .ok ⟨_, drain_perm m o.calls h hok, rfl, rfl, rfl, nofun⟩

theorem empty_unsplit {R : Nat} {t : HB} (hwf : t.WF) (he : t.ents = []) :
    Inv R { main := t, lo := none } ∧ Raw.ents { main := t, lo := none } = [] ∧
      Raw.lo { main := t, lo := none } = none ∧ Raw.len { main := t, lo := none } = 0 :=
  ⟨⟨hwf, nofun, nofun, by simp [Raw.ents, he, keysOf]⟩, by simp [Raw.ents, he], rfl, by simp [Raw.len, he]⟩

/-- **After `drain` the map is empty and usable** — whether the iterator was consumed, dropped
    early or forgotten, at any prefix `take`. -/
theorem drain_leaves_empty {R : Nat} (m : Map) (take : Nat) (forget : Bool) (o : Orc) (h : Inv R m) :
    OkOr (Map.drain m take forget o) (fun r =>
      Inv R r.1 ∧ r.1.ents = [] ∧ r.1.lo = none ∧ r.1.len = 0) := by
  refine (drain_spec m take forget o h).mono fun r ⟨_, _, hr, _⟩ => ?_
  rw [hr]
  cases forget
  · exact empty_unsplit (by simp [HB.WF, HB.clearNoDrop]) rfl
  · exact empty_unsplit (by simp [HB.WF, HB.new, fullCap]) rfl

/-- what `drain` yields is a prefix of a permutation of the contents: old table (cursor order)
    first, then the main table; its length is `min take len()` -/
theorem drain_yields {R : Nat} (m : Map) (take : Nat) (forget : Bool) (o : Orc) (h : Inv R m) :
    OkOr (Map.drain m take forget o) (fun r =>
      ∃ all : List Entry, (∀ e ∈ all, e ∈ m.ents) ∧ r.2.ret = .ents (all.take take)) :=
  (drain_spec m take forget o h).mono fun _ ⟨all, hp, _, hret, _⟩ => ⟨all, fun _ he => hp.subset he, hret⟩

/-- `drain` pulled `take` times, then dropped: the yielded entries are a prefix of a permutation of
    the contents — **each stored entry at most once, all of them if pulled to the end** — and every
    object is either handed to the caller or dropped by the iterator's destructor, exactly once. -/
theorem drain_exact {R : Nat} (m : Map) (take : Nat) (o : Orc) (h : Inv R m) :
    OkOr (Map.drain m take false o) (fun r =>
      ∃ all : List Entry, all.Perm m.ents ∧ r.2.ret = .ents (all.take take) ∧
        r.2.returned = idsOf (all.take take) ∧ r.2.cost.dropped = idsOf (all.drop take) ∧ r.1.ents = []) :=
  (drain_spec m take false o h).mono fun _ ⟨all, hp, hr, hret, hrd, hd⟩ =>
    ⟨all, hp, hret, hrd, hd rfl, by rw [hr]; rfl⟩

/-- the same for `into_iter` (the map is consumed: nothing stays stored) -/
theorem into_iter_exact {R : Nat} (m : Map) (take : Nat) (o : Orc) (h : Inv R m) :
    OkOr (Map.intoIter m take o) (fun out =>
      ∃ all : List Entry, all.Perm m.ents ∧ out.ret = .ents (all.take take) ∧
        out.returned = idsOf (all.take take) ∧ out.cost.dropped = idsOf (all.drop take)) := by
  unfold Map.intoIter
  cases hok : Map.drainOrderOk m o.calls with
  | false => exact ⟨_, rfl⟩
  | true =>
    simp only [Bool.not_true, Bool.false_eq_true, if_false, overCount_false h]
    refine .ok ⟨_, drain_perm m o.calls h hok, rfl, rfl, ?_⟩
    cases hlo : m.lo with
    | none => simp [HB.freeCost, idsOf]
    | some ol => simp [Old.freeCost, HB.freeCost, h.agree ol hlo, idsOf]

/-- `into_iter()` pulled `take` times then dropped: what it yields are stored entries (a prefix of
    the old-table-first sequence); everything else is dropped with the map — nothing is kept. -/
theorem into_iter_yields {R : Nat} (m : Map) (take : Nat) (o : Orc) (h : Inv R m) :
    OkOr (Map.intoIter m take o) (fun out =>
      ∃ all : List Entry, (∀ e ∈ all, e ∈ m.ents) ∧ out.ret = .ents (all.take take) ∧
        out.returned = idsOf (all.take take)) :=
  (into_iter_exact m take o h).mono fun _ ⟨all, hp, hret, hrd, _⟩ => ⟨all, fun _ he => hp.subset he, hret, hrd⟩

end Griddle.C08
