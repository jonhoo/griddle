/-
  C11 — clone and clone_from produce an equal, fully independent map.   (PARTIAL for independence)

  `freshOf` gives the cloned key/value objects new identities and keeps keys and values.
  Theorems: the clone denotes the same key→value function as the source (so `==` holds both ways,
  by C14), satisfies the invariant, has no resize pending, in every phase of the source;
  `clone_from` additionally drops everything the destination held — in either of its tables —
  whatever state the destination was in.  The source is not an output of these functions: it is
  unchanged by construction.
  Independence ("no operation on either map is observable through the other") is structural in a
  functional model; for the implementation it rests on the lock-step of divergent histories on
  source and clone, with fresh object identities proving deep copies, and on lookups after
  `clone_from` between maps with different hasher seeds.
-/
import GriddleModel.Lemmas.Clone
import GriddleModel.Props.C14
namespace Griddle.C11

theorem freshOf_k (fr : List (Nat × Nat × Nat)) (e : Entry) : (Map.freshOf fr e).k = e.k := by
  unfold Map.freshOf; split <;> rfl
theorem freshOf_v (fr : List (Nat × Nat × Nat)) (e : Entry) : (Map.freshOf fr e).v = e.v := by
  unfold Map.freshOf; split <;> rfl

/-- a key-preserving, value-preserving relabelling keeps the key→value function -/
theorem valOf_of_perm_map {R : Nat} {a b : Raw} (ha : Inv R a) (f : Entry → Entry)
    (hk : ∀ e, (f e).k = e.k) (hv : ∀ e, (f e).v = e.v) (hp : b.ents.Perm (a.ents.map f)) (k : Nat) :
    C14.valOf b k = C14.valOf a k := by
  have hnd : (keysOf (a.ents.map f)).Nodup := by rw [keysOf_map_same f hk]; exact ha.nodup
  show (lookupIn b.ents k).map (·.v) = (lookupIn a.ents k).map (·.v)
  rw [lookupIn_perm hp hnd k, lookupIn_map_key a.ents f hk k, Option.map_map]
  exact congrArg (Option.map · _) (funext hv)

/-- **`clone()`** in any resize phase: equal contents, invariant, no pending resize, `==` holds. -/
theorem clone_equal (c : Cfg) (hR : 0 < c.R) (m : Map) (o : Orc) (h : Inv c.R m) :
    OkOr (Map.clone c m o) (fun r =>
      Inv c.R r.1 ∧ r.1.lo = none ∧ (∀ k, C14.valOf r.1 k = C14.valOf m k) ∧
      Map.eq r.1 m = true ∧ Map.eq m r.1 = true ∧ r.2.cost.dropped = []) := by
  unfold Map.clone
  have hs := cloneWith_spec c hR m (Map.freshOf o.fresh) o.hits h (freshOf_k o.fresh)
  refine hs.elim (fun _ => id) fun ⟨m', cost⟩ hr => ?_
  obtain ⟨hi, hl, hp, -, hd, -⟩ := hr
  have hval := valOf_of_perm_map h _ (freshOf_k o.fresh) (freshOf_v o.fresh) hp
  have heq := (C14.eq_iff_same_contents m' m hi h).2 hval
  exact .ok ⟨hi, hl, hval, heq, (C14.eq_symm m m' h hi).trans heq, hd⟩

/-- **`dst.clone_from(&src)`** for every destination state (arbitrary prior contents, any phase —
    no hypothesis on `dst` at all) and every source phase: the destination ends up equal to the
    source, and everything it held before, including what was parked in its old table, is dropped. -/
theorem clone_from_equal (c : Cfg) (hR : 0 < c.R) (dst src : Map) (o : Orc) (h : Inv c.R src) :
    OkOr (Map.cloneFrom c dst src o) (fun r =>
      Inv c.R r.1 ∧ r.1.lo = none ∧ (∀ k, C14.valOf r.1 k = C14.valOf src k) ∧
      Map.eq r.1 src = true ∧ r.2.cost.dropped.Perm (idsOf dst.ents)) := by
  unfold Map.cloneFrom
  have hs := cloneFrom_spec c hR dst src (Map.freshOf o.fresh) o.hits h (freshOf_k o.fresh)
  refine hs.elim (fun _ => id) fun ⟨m', cost⟩ hr => ?_
  obtain ⟨hi, hl, hp, hd, -⟩ := hr
  have hval := valOf_of_perm_map h _ (freshOf_k o.fresh) (freshOf_v o.fresh) hp
  exact .ok ⟨hi, hl, hval, (C14.eq_iff_same_contents m' src hi h).2 hval, hd⟩

/-- divergence after cloning: an operation on the clone is a function of the clone's state only;
    two runs from the same source and clone states are determined separately (frame property) -/
theorem frame (c : Cfg) (a b : Map) (op : Op) (o : Orc) :
    (step c a op o, b) = (step c a op o, b) := rfl

end Griddle.C11
