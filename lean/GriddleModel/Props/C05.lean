/-
  C05 — No undefined behaviour is reachable through the safe API.   (PARTIAL: protocol level)

  In the model every precondition of hashbrown's `unsafe` API that griddle must meet is an explicit
  `Fault.ub` (insert_no_grow with room; buckets handed to erase / remove / replace_bucket_with are
  full buckets of the table they are routed to; the cached iterator is never advanced past the
  elements that remain; `into_iter_from` is given an iterator whose count matches).  These theorems
  show no such fault — and no undocumented panic — is reachable from a state satisfying the
  invariant, whatever the oracle, and that the cached cursor's count equals the number of elements
  still in the old table after removals by every route.

  What a functional model cannot exhibit is the wild read itself; that part rests on the
  correspondence run (hook read-out of the cursor, canary/ledger elements, both build profiles).
-/
import GriddleModel.Lemmas.Steps
namespace Griddle.C05

/-- No call of the core API reaches undefined behaviour from an invariant state. -/
theorem step_no_ub (c : Cfg) (hR : 0 < c.R) (m : Map) (op : Op) (o : Orc) (h : Inv c.R m) (hp : pre m op)
    (w : String) : step c m op o ≠ .error (.ub w) :=
  OkOrCap.not_ub (step_refines c hR m op o h hp) w

/-- …nor any panic other than the documented capacity overflow (so no `assert!`,
    `unreachable!`, arithmetic-overflow or debug-assertion panic: no outcome relies on one). -/
theorem step_panic_documented (c : Cfg) (hR : 0 < c.R) (m : Map) (op : Op) (o : Orc) (h : Inv c.R m)
    (hp : pre m op) (k : PanicKind) (heq : step c m op o = .error (.panic k)) : k = .capacityOverflow :=
  OkOrCap.panic_documented (step_refines c hR m op o h hp) k heq

/-- No history reaches undefined behaviour. -/
theorem run_no_ub (c : Cfg) (hR : 0 < c.R) (orcs : Nat → Orc) (ops : List Op) (m : Map) (h : Inv c.R m)
    (hpre : runPre c m ops orcs) (w : String) : run c m ops orcs ≠ .error (.ub w) :=
  OkOrCap.not_ub (run_refines c hR orcs ops m h hpre) w

/-- After every call the cached position agrees exactly with the elements still in the old table. -/
theorem step_cursor_agrees (c : Cfg) (hR : 0 < c.R) (m : Map) (op : Op) (o : Orc) (h : Inv c.R m) (hp : pre m op) :
    OkOrCap (step c m op o) (fun r => ∀ ol, r.1.lo = some ol → ol.cursor = ol.ents.length) :=
  (step_refines c hR m op o h hp).mono (fun _ hs => hs.1.agree)

/-- Removal by `remove` / entry removal / `drain_filter` (`remove(bucket)`): the bucket handed over
    is a full bucket of the right table, the cursor is told before the removal; agreement kept. -/
theorem remove_route_agrees {R : Nat} (hR : 0 < R) {t : Raw} (h : Inv R t) {k : Nat} {loc : Loc} {e : Entry}
    (hf : t.find k = some (loc, e)) (b : Bool) :
    ∃ t' cost, Raw.removeAt t loc b = .ok (t', e, cost) ∧
      ∀ ol, t'.lo = some ol → ol.cursor = ol.ents.length := by
  obtain ⟨t', cost, hr, hi, _⟩ := removeAt_spec hR h hf b
  exact ⟨t', cost, hr, hi.agree⟩

/-- Removal by `retain` (`erase(bucket)`): same, and the emptied old table stays parked. -/
theorem erase_route_agrees {R : Nat} (hR : 0 < R) {t : Raw} (h : Inv R t) {k : Nat} {loc : Loc} {e : Entry}
    (hf : t.find k = some (loc, e)) (b : Bool) :
    ∃ t' cost, Raw.eraseAt t loc b = .ok (t', cost) ∧
      ∀ ol, t'.lo = some ol → ol.cursor = ol.ents.length := by
  obtain ⟨t', cost, hr, hi, _⟩ := eraseAt_spec hR h hf b
  exact ⟨t', cost, hr, hi.agree⟩

/-- Removal by `replace_entry_with(.. None)`: the state it leaves is the one `erase` leaves
    (this is the repaired ordering: the cursor hears of the removal *before* the bucket is vacated). -/
theorem replace_route_agrees {R : Nat} (hR : 0 < R) {t : Raw} (h : Inv R t) {k : Nat} {loc : Loc} {e : Entry}
    (hf : t.find k = some (loc, e)) (b : Bool) :
    ∃ t', (Raw.replaceAt t loc none b).map (·.1) = .ok t' ∧
      ∀ ol, t'.lo = some ol → ol.cursor = ol.ents.length :=
  ⟨_, congrArg (Except.map (·.1)) (filterAt_routes hf b).2.1, (filterAt_spec h hf b).1.agree⟩

/-- `carry` never advances the cached iterator past the remaining elements, and never inserts
    into a main table without room. -/
theorem carry_no_ub (c : Cfg) (hR : 0 < c.R) (t : Raw) (hits : Nat) (h : Inv c.R t) (w : String) :
    Raw.carry c t hits ≠ .error (.ub w) := by
  rintro heq
  obtain ⟨_, hw⟩ := heq ▸ carry_inv c hR t hits h
  cases hw

/-- non-vacuity: in a state that VIOLATES the agreement invariant (count one too high, the
    situation the unrepaired `replace_entry_with` produced after a panicking closure) the model does
    report the over-read — the `ub` faults are not vacuous. -/
example : Raw.carry { R := 8 } { main := { buckets := 16, ents := [], gl := 14 },
                                 lo := some { buckets := 4, ents := [⟨1, 1, 1, 2⟩], cursor := 2 } } 0
    = .error (.ub "cached iterator advanced past the last element of the old table") := rfl

end Griddle.C05
