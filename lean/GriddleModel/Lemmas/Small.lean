/-
  Size invariant `Small`: the main table passed hashbrown's layout computation (`calculate_layout_for` rejects
  anything above `isize::MAX` bytes) or is the unallocated singleton, so it has fewer than `2^63` buckets.  Every call
  keeps the main table, or takes `HB.new`, or takes what `HB.tryWithCapacity` returned; the lemmas follow the
  definitions arm by arm.  The theorems registered for a property have the form `(h : f … = .ok r) : Small r.1`.
-/
import GriddleModel.Lemmas.Steps
namespace Griddle

def Small (t : Raw) : Prop := t.main.buckets < 2 ^ 63

/-- the same of one table: `Small t` is `t.main.Small` by definition -/
def HB.Small (t : HB) : Prop := t.buckets < 2 ^ 63

theorem small_new : Small (Raw.new) := by
  show (1 : Nat) < 2 ^ 63
  decide

theorem allocCheck_small (c : Cfg) (b : Nat) (h : allocCheck c b = none) : b < 2 ^ 63 := by
  -- the layout has a control byte per bucket and must fit `isize::MAX - 15` bytes
  by_cases h4 : ISIZE_MAX - 15 < (c.elemSize * b + 15) / 16 * 16 + (b + 16)
  · simp only [allocCheck, if_pos h4, ite_self, reduceCtorEq] at h
  · unfold ISIZE_MAX at h4; omega

theorem HB.tryWithCapacity_small (c : Cfg) (cap : Nat) : IfOk (HB.tryWithCapacity c cap) HB.Small := by
  unfold HB.tryWithCapacity
  refine .ite (.ok small_new) ?_
  split
  · exact .error
  · split
    · exact .error
    · rename_i hac
      exact .ok (allocCheck_small c _ hac)

theorem HB.insertNoGrow_small {t : HB} (hs : t.Small) (e : Entry) (b : Bool) :
    IfOk (t.insertNoGrow e b) HB.Small :=
  .ite (.ite (.ok hs) .error) (.ite .error (.ok hs))

theorem HB.insertGrowable_small {c : Cfg} {t : HB} (hs : t.Small) (e : Entry) (b : Bool) :
    IfOk (t.insertGrowable c e b) (HB.Small ·.1) := by
  unfold HB.insertGrowable
  refine .ite ((HB.insertNoGrow_small hs e true).elim (fun _ => .error) fun _ h => .ok h)
    (.ite (.ite (.ok hs) ?_) (.ok hs))
  exact (HB.tryWithCapacity_small c _).elim (fun e => by cases e <;> exact .error) fun _ h => .ok h

theorem HB.removeKey_small {t : HB} (hs : t.Small) (k : Nat) (b : Bool) :
    IfOk (t.removeKey k b) (HB.Small ·.1) := by
  unfold HB.removeKey
  cases t.find? k with
  | none => exact .error
  | some e => exact .ok hs

theorem HB.shrinkTo_small {c : Cfg} {t : HB} (hs : t.Small) (n : Nat) :
    IfOk (t.shrinkTo c n) (HB.Small ·.1) := by
  unfold HB.shrinkTo
  refine .ite (.ok small_new) ?_
  cases capToBuckets (max t.ents.length n) with
  | none => exact .ok hs
  | some mb =>
    refine .ite ?_ (.ok hs)
    exact (HB.tryWithCapacity_small c _).elim (fun e => by cases e <;> exact .error) fun _ h => .ite (.ok h) (.ok h)

theorem carryLoop_small : ∀ (n : Nat) (main : HB) (o : Old) (hits : Nat) (cost : Cost), main.Small →
    IfOk (Raw.carryLoop main o n hits cost) (HB.Small ·.1) := by
  intro n
  induction n with
  | zero => exact fun _ _ _ _ hs => .ite (.ok hs) (.ok hs)
  | succ n ih =>
    intro main o hits cost hs
    unfold Raw.carryLoop
    refine .ite (.ok hs) ?_
    split
    · exact .error
    · exact (HB.insertNoGrow_small hs _ _).elim (fun _ => .error) fun _ h => ih _ _ _ _ h

theorem carry_small {c : Cfg} {t : Raw} (hs : Small t) (hits : Nat) : IfOk (Raw.carry c t hits) (Small ·.1) := by
  unfold Raw.carry
  split
  · exact .ok hs
  · exact (carryLoop_small c.R t.main _ hits {} hs).elim (fun _ => .error) fun _ h => .ok h

theorem carryAllLoop_small (c : Cfg) : ∀ (n : Nat) (ents : List Entry) (main : HB) (hits : Nat) (cost : Cost),
    main.Small → IfOk (Raw.carryAllLoop c main n ents hits cost) (HB.Small ·.1) := by
  intro n
  induction n with
  | zero => exact fun _ _ _ _ hs => .ok hs
  | succ n ih =>
    intro ents main hits cost hs
    cases ents with
    | nil => exact .error
    | cons e rest =>
      unfold Raw.carryAllLoop
      exact (HB.insertGrowable_small hs e _).elim (fun _ => .error) fun _ h => ih rest _ _ _ h

theorem carryAll_small {c : Cfg} {t : Raw} (hs : Small t) (hits : Nat) : IfOk (Raw.carryAll c t hits) (Small ·.1) := by
  unfold Raw.carryAll
  split
  · exact .ok hs
  · exact (carryAllLoop_small c _ _ _ hits {} hs).elim (fun _ => .error) fun _ h => .ok h

theorem tryGrow_small {c : Cfg} {t : Raw} (hs : Small t) (extra : Nat) (perm : List Nat) :
    IfOk (Raw.tryGrow c t extra perm) (Small ·.1) := by
  unfold Raw.tryGrow
  refine .ite .error (.ite (.ok hs) ?_)
  refine (HB.tryWithCapacity_small c _).elim (fun _ => .ok hs) fun nt hnt => .ite (.ok hnt) ?_
  cases Raw.reorder t.main.ents perm with
  | none => exact .error
  | some es => exact .ok hnt

theorem grow_small {c : Cfg} {t : Raw} (hs : Small t) (extra : Nat) (perm : List Nat) :
    IfOk (Raw.grow c t extra perm) (Small ·.1) :=
  (tryGrow_small hs extra perm).fatal

theorem Raw.insertNoGrow_small {c : Cfg} {t : Raw} (hs : Small t) (e : Entry) (hits : Nat) :
    IfOk (Raw.insertNoGrow c t e hits) (Small ·.1) := by
  unfold Raw.insertNoGrow
  refine (HB.insertNoGrow_small hs e _).elim (fun _ => .error) fun m hm => ?_
  have hm : Small { t with main := m } := hm
  exact .ite (carry_small hm _) (.ok hm)

theorem Raw.insert_small {c : Cfg} {t : Raw} (hs : Small t) (e : Entry) (hits : Nat) (perm : List Nat) :
    IfOk (Raw.insert c t e hits perm) (Small ·.1) := by
  unfold Raw.insert
  refine .ite (.ite .error ?_) (Raw.insertNoGrow_small hs e hits)
  refine (grow_small hs 1 perm).elim (fun _ => .error) fun ⟨t', gc⟩ h => ?_
  dsimp only
  exact (Raw.insertNoGrow_small h e hits).elim (fun _ => .error) fun _ h => .ok h

theorem removeAt_small {t : Raw} (hs : Small t) (loc : Loc) (b : Bool) : IfOk (Raw.removeAt t loc b) (Small ·.1) := by
  unfold Raw.removeAt
  refine .ite ((HB.removeKey_small hs _ b).elim (fun _ => .error) fun _ h => .ok h) ?_
  split
  · exact .error
  · split
    · exact .error
    · exact .ite (.ok hs) (.ok hs)

theorem eraseAt_small {t : Raw} (hs : Small t) (loc : Loc) (b : Bool) : IfOk (Raw.eraseAt t loc b) (Small ·.1) := by
  unfold Raw.eraseAt
  refine .ite ((HB.removeKey_small hs _ b).elim (fun _ => .error) fun _ h => .ok h) ?_
  split
  · exact .error
  · split
    · exact .error
    · exact .ok hs

theorem replaceAt_small {t : Raw} (hs : Small t) (loc : Loc) (nv : Option (Nat × Nat)) (b : Bool) :
    IfOk (Raw.replaceAt t loc nv b) (Small ·.1) := by
  unfold Raw.replaceAt
  split
  · refine .ite ?_ ?_
    · split
      · exact .error
      · exact .ok hs
    · split
      · exact .error
      · split
        · exact .error
        · exact .ok hs
  · refine .ite ((HB.removeKey_small hs _ b).elim (fun _ => .error) fun _ h => .ok h) ?_
    split
    · exact .error
    · split
      · exact .error
      · exact .ok hs

/-- an in-place write (`Map.setValAt`, `Map.setKidAt`, `Map.bump` are `mapAt` by `rfl`) keeps the main table -/
theorem mapAt_small {m : Raw} {loc : Loc} {g : Entry → Entry} (hs : Small m) : Small (mapAt m loc g) := by
  unfold mapAt; split <;> exact hs

theorem Raw.shrinkTo_small {c : Cfg} {t : Raw} (hs : Small t) (n : Nat) : IfOk (Raw.shrinkTo c t n) (Small ·.1) := by
  unfold Raw.shrinkTo
  split  -- names the pair `(lo, c0)`
  exact .ite .error ((HB.shrinkTo_small hs _).elim (fun _ => .error) fun _ h => .ok h)

theorem tryReserve_small {c : Cfg} {t : Raw} (hs : Small t) (n hits : Nat) (perm : List Nat) :
    IfOk (Raw.tryReserve c t n hits perm) (Small ·.1) := by
  unfold Raw.tryReserve
  refine .ite (.ok hs) (.ite (.ok hs) (.ite ?_ (tryGrow_small hs n perm)))
  refine (carryAll_small hs hits).elim (fun _ => .error) fun ⟨t1, _, c1⟩ h => ?_
  dsimp only
  exact (tryGrow_small h n perm).elim (fun _ => .error) fun _ h => .ok h

theorem reserve_small {c : Cfg} {t : Raw} (hs : Small t) (n hits : Nat) (perm : List Nat) :
    IfOk (Raw.reserve c t n hits perm) (Small ·.1) := by
  rw [Raw.reserve_eq_fatal]; exact (tryReserve_small hs n hits perm).fatal

/-- what the invariants say about sizes: twice the length still fits a `usize` -/
theorem small_len {R : Nat} {t : Raw} (h : Inv R t) (hs : Small t) : t.len + t.len + 1 < USIZE := by
  -- stored and parked elements together fit the main table's capacity, which is below its bucket count
  have hwf : t.main.ents.length + t.main.gl ≤ fullCap t.main.buckets := h.wf
  have hfc := fullCap_le t.main.buckets
  have hh := h.head_old
  unfold Small at hs
  rw [Raw.len_old]
  unfold USIZE
  omega

theorem Map.insert_small {c : Cfg} {m : Map} (hs : Small m) (e : Entry) (o : Orc) :
    IfOk (Map.insert c m e o) (Small ·.1) := by
  cases hf : m.find e.k with
  | none =>
    unfold Map.insert
    rw [hf]
    exact (Raw.insert_small hs e _ _).elim (fun _ => .error) fun _ h => .ok h
  | some p =>
    -- the value is overwritten where it is; then `carry` if that was in the old table
    rw [Map.insert_of_find (loc := p.1) (old := p.2) hf]
    exact .ite (.ok (mapAt_small hs)) ((carry_small (mapAt_small hs) _).elim (fun _ => .error) fun _ h => .ok h)

theorem Map.reserve_small {c : Cfg} {m : Map} (hs : Small m) (n : Nat) (o : Orc) :
    IfOk (Map.reserve c m n o) (Small ·.1) := by
  unfold Map.reserve
  exact (Griddle.reserve_small hs n _ _).elim (fun _ => .error) fun _ h => .ok h

theorem step_small {c : Cfg} {m : Map} {op : Op} {o : Orc} {r : Map × Out} (hs : Small m)
    (h : step c m op o = .ok r) : Small r.1 := by
  suffices IfOk (step c m op o) (Small ·.1) from this.apply h
  cases op with
  | insert e => exact Map.insert_small hs e o
  | get k => exact .ok hs
  | getMut k add =>
    refine .ok (?_ : Small (Map.getMut m k add).1)
    unfold Map.getMut
    split
    · exact hs
    · exact mapAt_small (loc := ⟨_, k⟩) hs
  | remove k =>
    show IfOk (Map.removeEntry m k o) _
    unfold Map.removeEntry
    split
    · exact .ok hs
    · exact (removeAt_small hs _ _).elim (fun _ => .error) fun _ h => .ok h
  | clear =>
    refine .ok (?_ : Small (Raw.clear m).1)
    unfold Raw.clear HB.clear
    dsimp only
    split <;> exact hs
  | reserve n => exact Map.reserve_small hs n o
  | tryReserve n =>
    show IfOk (Map.tryReserve c m n o) _
    unfold Map.tryReserve
    exact (tryReserve_small hs n _ _).elim (fun _ => .error) fun _ h => .ok h
  | shrinkTo n =>
    show IfOk (Map.shrinkTo c m n) _
    unfold Map.shrinkTo
    exact (Raw.shrinkTo_small hs n).elim (fun _ => .error) fun _ h => .ok h

theorem pre_of_small {R : Nat} {m : Map} (h : Inv R m) (hs : Small m) (op : Op) : pre m op := by
  cases op <;> simp only [pre]
  exact small_len h hs

/-- the side condition of `run_refines` holds along every history from a state whose main table
    passed the layout check -/
theorem runPre_of_small (c : Cfg) (hR : 0 < c.R) (orcs : Nat → Orc) :
    ∀ (ops : List Op) (m : Map), Inv c.R m → Small m → runPre c m ops orcs := by
  intro ops
  induction ops with
  | nil => intro m _ _; trivial
  | cons op rest ih =>
    intro m h hs
    refine ⟨pre_of_small h hs op, fun m' out hst => ?_⟩
    have hr := step_refines c hR m op (orcs rest.length) h (pre_of_small h hs op)
    rw [hst] at hr
    exact ih m' hr.1 (step_small hs hst)

theorem retainLoop_small (p : Pred) (nMain : Nat) : ∀ (ks : List Nat) (i : Nat) (m : Map) (empt : Nat) (cost : Cost),
    Small m → IfOk (Map.retainLoop p nMain ks i m empt cost) (Small ·.1) := by
  intro ks
  induction ks with
  | nil => exact fun _ _ _ _ hs => .ok hs
  | cons k rest ih =>
    intro i m empt cost hs
    unfold Map.retainLoop
    refine .ite (ih _ _ _ _ (mapAt_small hs)) ?_
    exact (eraseAt_small (mapAt_small hs) _ _).elim (fun _ => .error) fun _ h => ih _ _ _ _ h

theorem retain_small {m : Map} {p : Pred} {o : Orc} {r : Map × Out} (hs : Small m)
    (h : Map.retain m p o = .ok r) : Small r.1 := by
  suffices IfOk (Map.retain m p o) (Small ·.1) from this.apply h
  unfold Map.retain
  exact .ite .error ((retainLoop_small p _ _ _ m _ _ hs).elim (fun _ => .error) fun _ h => .ok h)

theorem drainFilterLoop_small (p : Pred) (nMain : Nat) : ∀ (ks : List Nat) (i : Nat) (m : Map) (empt : Nat)
    (take : Option Nat) (acc : List Entry) (cost : Cost),
    Small m → IfOk (Map.drainFilterLoop p nMain ks i m empt take acc cost) (Small ·.1) := by
  intro ks
  induction ks with
  | nil => exact fun _ _ _ _ _ _ hs => .ok hs
  | cons k rest ih =>
    intro i m empt take acc cost hs
    unfold Map.drainFilterLoop
    refine .ite (.ok hs) (.ite ?_ (ih _ _ _ _ _ _ (mapAt_small hs)))
    exact (removeAt_small (mapAt_small hs) _ _).elim (fun _ => .error) fun _ h => ih _ _ _ _ _ _ h

theorem drainFilter_small {m : Map} {p : Pred} {take : Nat} {forget : Bool} {o : Orc} {r : Map × Out} (hs : Small m)
    (h : Map.drainFilter m p take forget o = .ok r) : Small r.1 := by
  suffices IfOk (Map.drainFilter m p take forget o) (Small ·.1) from this.apply h
  unfold Map.drainFilter
  dsimp only
  refine .ite .error ((drainFilterLoop_small p _ _ _ m _ _ _ _ hs).elim (fun _ => .error) fun ⟨m1, ys, c1, ro⟩ h1 => ?_)
  dsimp only
  refine .ite (.ok h1) ?_
  exact (drainFilterLoop_small p _ _ _ m1 _ _ _ _ h1).elim (fun _ => .error) fun _ h => .ok h

theorem drain_small {m : Map} {take : Nat} {forget : Bool} {o : Orc} {r : Map × Out} (hs : Small m)
    (h : Map.drain m take forget o = .ok r) : Small r.1 := by
  suffices IfOk (Map.drain m take forget o) (Small ·.1) from this.apply h
  exact .ite .error (.ite .error (.ite (.ok small_new) (.ok hs)))

theorem andCarryLoop_small (c : Cfg) (fresh : Entry → Entry) : ∀ (es : List Entry) (m : HB) (hits : Nat) (cost : Cost),
    m.Small → IfOk (Raw.andCarryLoop c fresh m es hits cost) (HB.Small ·.1) := by
  intro es
  induction es with
  | nil => exact fun _ _ _ hs => .ok hs
  | cons e rest ih =>
    intro m hits cost hs
    unfold Raw.andCarryLoop
    exact (HB.insertGrowable_small hs _ _).elim (fun _ => .error) fun _ h => ih _ _ _ h

theorem cloneWith_small {c : Cfg} {t : Raw} (hs : Small t) (fresh : Entry → Entry) (hits : Nat) :
    IfOk (Raw.cloneWith c t fresh hits) (Small ·.1) := by
  have hm : (t.main.cloneWith fresh).1.Small := by
    unfold HB.cloneWith
    split
    · exact hs
    · exact small_new
  unfold Raw.cloneWith
  dsimp only
  split
  · exact .ok hm
  · exact .ite .error ((andCarryLoop_small c fresh _ _ hits {} hm).elim (fun _ => .error) fun _ h => .ok h)

theorem cloneFrom_small {c : Cfg} {src : Raw} (hs : Small src) (dst : Raw) (fresh : Entry → Entry) (hits : Nat) :
    IfOk (Raw.cloneFrom c dst src fresh hits) (Small ·.1) := by
  unfold Raw.cloneFrom
  dsimp only
  -- the main table installed: the singleton, or a copy of the source's
  generalize hx : (if !src.main.allocated then _ else _ : HB × Cost) = x
  have hm : x.1.Small := by
    rw [← hx]
    split
    · exact small_new
    · split <;> exact hs
  split
  · exact .ok hm
  · exact .ite .error ((andCarryLoop_small c fresh _ x.1 hits {} hm).elim (fun _ => .error) fun _ h => .ok h)

theorem iterMutAdd_small {m : Map} {add : Nat} (hs : Small m) : Small (Map.iterMutAdd m add) := hs

open Map in
theorem chainStep_small {c : Cfg} {raw : Bool} {k : Nat} {m : Map} (hs : Small m) (st : ES) (acc : ChainAcc) (s : EStep)
    (o : Orc) : IfOk (chainStep c raw k m st acc s o) (Small ·.1) := by
  unfold chainStep
  dsimp only
  -- one goal per alternative of `chainStep`, in the order they are written there
  split
  · exact .ok hs
  · split
    · exact .error
    · exact .ok (mapAt_small hs)
  · exact .ok hs
  · split
    · exact .error
    · exact (replaceAt_small hs _ _ _).elim (fun _ => .error) fun ⟨_, b⟩ h => by cases b <;> exact .ok h
  · split
    · exact .error
    · exact (replaceAt_small hs _ _ _).elim (fun _ => .error) fun ⟨_, b⟩ h => by cases b <;> exact .ok h
  · exact .ok hs
  · split
    · exact .error
    · exact .ok (mapAt_small hs)
  · exact (Raw.insert_small hs _ _ _).elim (fun _ => .error) fun _ h => .ok h
  · split
    · exact .error
    · exact .ok (mapAt_small hs)
  · exact (Raw.insert_small hs _ _ _).elim (fun _ => .error) fun _ h => .ok h
  · exact (removeAt_small hs _ _).elim (fun _ => .error) fun _ h => .ok h
  · exact (removeAt_small hs _ _).elim (fun _ => .error) fun _ h => .ok h
  · split
    · exact .error
    · exact .ok (mapAt_small hs)
  · split
    · exact .ok (mapAt_small (mapAt_small hs))
    · exact .error
  · split
    · exact .error
    · refine .ite (.ok (mapAt_small hs)) ?_
      split
      · exact .ok (mapAt_small hs)
      · exact .error
  · split
    · exact .error
    · exact .ok (mapAt_small hs)
  · exact (Raw.insert_small hs _ _ _).elim (fun _ => .error) fun _ h => .ok h
  · exact .ok hs
  · exact .ok hs

open Map in
theorem chainLoop_small {c : Cfg} {raw : Bool} {k : Nat} : ∀ (steps : List EStep) (m : Map) (st : ES) (acc : ChainAcc)
    (o : Orc), Small m → IfOk (chainLoop c raw k steps m st acc o) (Small ·.1) := by
  intro steps
  induction steps with
  | nil => exact fun _ _ _ _ hs => .ok hs
  | cons s rest ih =>
    intro m st acc o hs
    unfold chainLoop
    exact (chainStep_small hs st acc s _).elim (fun _ => .error) fun _ h => ih _ _ _ _ h

open Map in
theorem entryChain_small {c : Cfg} {raw : Bool} {lh : Nat} {m : Map} {k kid : Nat} {steps : List EStep} {o : Orc}
    {r : Map × Out} (hs : Small m) (h : entryChain c raw lh m k kid steps o = .ok r) : Small r.1 := by
  suffices IfOk (entryChain c raw lh m k kid steps o) (Small ·.1) from this.apply h
  unfold entryChain
  dsimp only
  exact (chainLoop_small steps m _ _ o hs).elim (fun _ => .error) fun _ h => .ok h

theorem clone_small {c : Cfg} {m : Map} {o : Orc} {r : Map × Out} (hs : Small m)
    (h : Map.clone c m o = .ok r) : Small r.1 := by
  suffices IfOk (Map.clone c m o) (Small ·.1) from this.apply h
  unfold Map.clone
  exact (cloneWith_small hs _ _).elim (fun _ => .error) fun _ h => .ok h

theorem cloneFromMap_small {c : Cfg} {dst src : Map} {o : Orc} {r : Map × Out} (hs : Small src)
    (h : Map.cloneFrom c dst src o = .ok r) : Small r.1 := by
  suffices IfOk (Map.cloneFrom c dst src o) (Small ·.1) from this.apply h
  unfold Map.cloneFrom
  exact (cloneFrom_small hs dst _ _).elim (fun _ => .error) fun _ h => .ok h

end Griddle
