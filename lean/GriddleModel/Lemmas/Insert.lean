/-
  Growth and insertion under the invariant: `try_grow`, `grow`, griddle's `insert_no_grow` (hashbrown's, then
  `carry`) and `insert`.
-/
import GriddleModel.Lemmas.Find
namespace Griddle

/-- `try_grow` on a table that is not mid-resize: either an allocation error (state untouched),
    or a fresh main table with room for every parked element, the insertions that will move
    them, and `extra` more — the old contents parked in *some* order, cursor at its start. -/
theorem tryGrow_spec (c : Cfg) (t : Raw) (extra : Nat) (perm : List Nat)
    (hlo : t.lo = none) (hnd : (keysOf t.main.ents).Nodup) :
    OkOr (Raw.tryGrow c t extra perm) (fun r =>
      match r.2.1 with
      | some _ => r.1 = t ∧ r.2.2 = {}
      | none =>
        r.1.main.ents = [] ∧ r.1.main.WF ∧
        t.main.ents.length + ceilDiv t.main.ents.length c.R + max extra (ceilDiv t.main.ents.length c.R) ≤ r.1.main.gl ∧
        r.1.ents.Perm t.ents ∧
        (∀ o, r.1.lo = some o → o.cursor = o.ents.length ∧ o.ents.length = t.main.ents.length ∧ 0 < o.ents.length) ∧
        (t.main.ents.length = 0 → r.1.lo = none) ∧ (0 < t.main.ents.length → r.1.lo.isSome = true) ∧
        r.2.2.allocs ≤ 1 ∧ r.2.2.hashes = 0 ∧ r.2.2.moved = 0 ∧ r.2.2.dropped = [] ∧
        (r.2.2.allocs = 0 → r.1.main = HB.new)) := by
  have hents : t.ents = t.main.ents := by rw [Raw.ents, hlo, List.append_nil]
  unfold Raw.tryGrow
  rw [hlo]
  -- not mid-resize, so the debug assertion holds; an overflow or an allocation error leaves the state as it was
  refine .ite (fun h => by simp at h) fun _ => .ite (fun _ => .ok ⟨rfl, rfl⟩) fun _ => ?_
  refine IfOk.elim (HB.tryWithCapacity_spec c _) (fun _ => .ok ⟨rfl, rfl⟩) fun nt hnt => ?_
  obtain ⟨hne, hwf, hgl, _, hz, hal⟩ := hnt
  -- a new table that cost no allocation is the unallocated singleton
  have hnew : (if nt.allocated = true then 1 else 0) = 0 → nt = HB.new := fun ha =>
    hz (Nat.eq_zero_of_not_pos fun hpos => by simp [hal hpos] at ha)
  have hone : (if nt.allocated = true then 1 else 0) ≤ 1 := by split <;> decide
  refine .ite (fun h0 => ?_) fun h0 => ?_
  · refine .ok ⟨hne, hwf, hgl, ?_, nofun, fun _ => rfl, fun h => absurd h0 (Nat.ne_of_gt h), hone, rfl, rfl, rfl, hnew⟩
    rw [hents, Raw.ents_none, hne, List.eq_nil_of_length_eq_zero h0]
  · cases hre : Raw.reorder t.main.ents perm with
    | none => exact ⟨_, rfl⟩
    | some es =>
      have hp := reorder_perm hnd hre
      refine .ok ⟨hne, hwf, hgl, ?_, ?_, fun h => absurd h h0, fun _ => rfl, hone, rfl, rfl, rfl, hnew⟩
      · rw [hents, Raw.ents_some, hne]; exact hp
      · rintro _ ⟨rfl⟩
        exact ⟨rfl, hp.length_eq, by rw [hp.length_eq]; exact Nat.pos_of_ne_zero h0⟩

theorem tryGrow_inv (c : Cfg) (hR : 0 < c.R) (t : Raw) (extra : Nat) (perm : List Nat)
    (h : Inv c.R t) (hlo : t.lo = none) :
    OkOr (Raw.tryGrow c t extra perm) (fun r =>
      Inv c.R r.1 ∧ r.1.ents.Perm t.ents ∧ r.2.2.hashes = 0 ∧ r.2.2.moved = 0 ∧ r.2.2.dropped = [] ∧
      r.2.2.allocs ≤ 1 ∧
      (r.2.1 = none → r.1.len + extra ≤ r.1.capacity) ∧
      (∀ e, r.2.1 = some e → r.1 = t ∧ r.2.2 = {})) := by
  refine (tryGrow_spec c t extra perm hlo h.main_nodup).mono fun r hg => ?_
  obtain ⟨t1, err, c1⟩ := r
  cases err with
  | some e =>
    obtain ⟨rfl, rfl⟩ := hg
    exact ⟨h, .refl _, rfl, rfl, rfl, Nat.zero_le _, nofun, fun _ _ => ⟨rfl, rfl⟩⟩
  | none =>
    obtain ⟨g1, g2, g3, g4, g5, _, _, g8, g9, g10, g11, _⟩ := hg
    dsimp only at g1 g2 g3 g4 g5 g8 g9 g10 g11 ⊢
    obtain ⟨hhead, hextra⟩ := grow_request_le g3
    refine ⟨⟨g2, fun o ho => (g5 o ho).1, fun o ho => ?_, (keysOf_perm g4).nodup_iff.2 h.nodup⟩, g4, g9, g10, g11, g8,
      fun _ => ?_, nofun⟩
    · obtain ⟨_, hl, hpos⟩ := g5 o ho
      rw [hl] at hpos ⊢
      exact ⟨hhead, Nat.le_trans hpos (Nat.le_trans (Nat.le_add_right _ _) hhead)⟩
    · rw [Raw.len_eq, g4.length_eq, Raw.ents, hlo, List.append_nil, Raw.capacity, HB.capacity, g1, List.length_nil,
        Nat.zero_add]
      exact hextra

/-- A fallible call whose allocation error is fatal: `grow` is this of `try_grow`, `reserve` of `try_reserve`. -/
def fatal (r : Except Fault (Raw × Option AllocErr × Cost)) : Except Fault (Raw × Cost) :=
  match r with
  | .error f => .error f
  | .ok (_, some .overflow, _) => .error (.panic .capacityOverflow)
  | .ok (_, some .alloc, _) => .error .abort
  | .ok (t, none, cost) => .ok (t, cost)

theorem Raw.grow_eq_fatal (c : Cfg) (t : Raw) (n : Nat) (perm : List Nat) :
    Raw.grow c t n perm = fatal (Raw.tryGrow c t n perm) := rfl

theorem OkOr.fatal {r : Except Fault (Raw × Option AllocErr × Cost)} {P : Raw × Option AllocErr × Cost → Prop}
    (h : OkOr r P) : OkOrCap (fatal r) (fun r' => P (r'.1, none, r'.2)) := by
  unfold Griddle.fatal
  refine h.elim (fun _ => Or.inl) fun r hr => ?_
  obtain ⟨t, _ | _ | _, cost⟩ := r
  · exact hr
  · exact .overflow
  · exact .abort

theorem IfOk.fatal {r : Except Fault (Raw × Option AllocErr × Cost)} {P : Raw × Option AllocErr × Cost → Prop}
    (h : IfOk r P) : IfOk (fatal r) (fun r' => P (r'.1, none, r'.2)) := by
  unfold Griddle.fatal
  refine h.elim (fun _ => .error) fun r hr => ?_
  obtain ⟨t, _ | _ | _, cost⟩ := r
  · exact .ok hr
  · exact .error
  · exact .error

/-- `grow(n)` on a map that is not mid-resize (how `insert` on a full table starts and `reserve` ends): the
    capacity-overflow panic, the OOM abort, or room for `n` more elements around the same contents. -/
theorem grow_spec (c : Cfg) (hR : 0 < c.R) (t : Raw) (n : Nat) (perm : List Nat) (h : Inv c.R t) (hlo : t.lo = none) :
    OkOrCap (Raw.grow c t n perm) (fun r =>
      Inv c.R r.1 ∧ r.1.ents.Perm t.ents ∧ r.1.len + n ≤ r.1.capacity ∧ r.2.allocs ≤ 1 ∧ r.2.dropped = [] ∧
      r.2.hashes = 0 ∧ r.2.moved = 0) :=
  (tryGrow_inv c hR t n perm h hlo).fatal.mono
    fun _ ⟨g1, g2, g3, g4, g5, g6, g7, _⟩ => ⟨g1, g2, g7 rfl, g6, g5, g3, g4⟩

/-- A full table is not mid-resize (`head` keeps a unit of room while anything is parked), so `insert` does not
    reach its `assert!(self.leftovers.is_none())`; and the table `grow(1)` installs has room. -/
theorem grow_of_full_table (c : Cfg) (hR : 0 < c.R) (t : Raw) (perm : List Nat) (h : Inv c.R t) (hgl : t.main.gl = 0) :
    t.lo = none ∧ OkOrCap (Raw.grow c t 1 perm) (fun r =>
      Inv c.R r.1 ∧ r.1.ents.Perm t.ents ∧ 0 < r.1.main.gl ∧ r.2.allocs ≤ 1 ∧ r.2.dropped = [] ∧
      r.2.hashes = 0 ∧ r.2.moved = 0) := by
  have hlo : t.lo = none := by
    cases hlo : t.lo with
    | none => rfl
    | some o => exact absurd hgl (Nat.ne_of_gt (h.head o hlo).2)
  refine ⟨hlo, (grow_spec c hR t 1 perm h hlo).mono fun r hr => ?_⟩
  obtain ⟨g1, g2, g3, g4⟩ := hr
  refine ⟨g1, g2, ?_, g4⟩
  unfold Raw.len Raw.capacity HB.capacity at g3
  omega

/-- The state between the main-table insertion of a fresh key and the `carry` that follows: one unit of headroom is
    spent, which is what `carry_spec` (and the fused `carry` of C07) ask for. -/
theorem Inv.spent {R : Nat} {t : Raw} (h : Inv R t) {e : Entry} (hfresh : e.k ∉ keysOf t.ents) {m : HB}
    (hm : m.buckets = t.main.buckets ∧ m.ents = e :: t.main.ents ∧ m.WF ∧ m.gl ≤ t.main.gl ∧ t.main.gl ≤ m.gl + 1) :
    Raw.ents { t with main := m } = e :: t.ents ∧
      (∀ o, t.lo = some o → o.ents.length + ceilDiv o.ents.length R ≤ m.gl + 1) ∧
      (keysOf (Raw.ents { t with main := m })).Nodup := by
  have hents : Raw.ents { t with main := m } = e :: t.ents := by unfold Raw.ents; rw [hm.2.1]; rfl
  exact ⟨hents, fun o ho => Nat.le_trans (h.head o ho).1 hm.2.2.2.2, hents ▸ keysOf_cons_nodup.2 ⟨hfresh, h.nodup⟩⟩

/-- griddle's `insert_no_grow`: the main-table insertion, then `carry`. -/
theorem Raw.insertNoGrow_spec (c : Cfg) (hR : 0 < c.R) (t : Raw) (e : Entry) (hits : Nat)
    (h : Inv c.R t) (hroom : 0 < t.main.gl) (hfresh : e.k ∉ keysOf t.ents) :
    OkOr (Raw.insertNoGrow c t e hits) (fun r =>
      e ∈ r.1.main.ents ∧ Inv c.R r.1 ∧ r.1.ents.Perm (e :: t.ents) ∧ r.1.main.buckets = t.main.buckets ∧
      t.main.capacity ≤ r.1.main.capacity ∧
      r.2.2.allocs = 0 ∧ r.2.2.moved ≤ c.R ∧ r.2.2.hashes = r.2.2.moved ∧ r.2.2.dropped = [] ∧
      (∀ o, t.lo = some o →
        r.2.2.moved = min c.R o.ents.length ∧
        (o.ents.length ≤ c.R → r.1.lo = none) ∧
        (c.R < o.ents.length → ∃ o', r.1.lo = some o' ∧ o'.ents.length = o.ents.length - c.R)) ∧
      (t.lo = none → r.1.lo = none ∧ r.2.2.moved = 0)) := by
  obtain ⟨main, lo⟩ := t
  unfold Raw.insertNoGrow
  dsimp only at hroom ⊢
  refine (HB.insertNoGrow_spec main e (decide (0 < hits)) h.wf hroom).elim (fun _ => id) fun m hm => ?_
  obtain ⟨hents, hhd, hnd⟩ := h.spent hfresh hm
  obtain ⟨hb, he, hwf', hgl1, hgl2⟩ := hm
  have hcap : main.capacity ≤ m.capacity := HB.capacity_le (congrArg List.length he) hgl2
  cases lo with
  | none =>
    exact .ok ⟨he ▸ List.mem_cons_self, ⟨hwf', nofun, nofun, hnd⟩, by rw [hents], hb, hcap, rfl, Nat.zero_le _, rfl,
      rfl, nofun, fun _ => ⟨rfl, rfl⟩⟩
  | some o =>
    have hcs := carry_spec c hR { main := m, lo := some o } (hits - 1) hwf' h.agree hhd hnd
    dsimp only [Option.isSome, if_true]
    refine hcs.elim (fun _ => id) fun r hr => ?_
    obtain ⟨hi, hp, hbk, -, -, hso⟩ := hr
    obtain ⟨h1, h2, h3, h4, h5, h6, h7, _, h9⟩ := hso o rfl
    refine .ok ⟨?_, hi, hents ▸ hp, hbk.trans hb, Nat.le_trans hcap (HB.capacity_le h2 h1), h7,
      h5 ▸ Nat.min_le_left _ _, h6.trans h5.symm, h9, ?_, nofun⟩
    · -- `carry` keeps `e` among the entries, and what it leaves parked was parked before, where `e`'s key is not
      have hin : e ∈ r.1.ents := hp.mem_iff.2 (hents ▸ List.mem_cons_self)
      refine (List.mem_append.1 hin).resolve_right fun hold => hfresh (mem_keysOf (List.mem_append_right _ ?_))
      rcases Nat.lt_or_ge c.R o.ents.length with hlt | hle
      · rw [h4 hlt] at hold; exact List.mem_of_mem_drop hold
      · rw [h3 hle] at hold; cases hold
    · rintro _ ⟨rfl⟩
      exact ⟨h5, h3, fun hlt => ⟨_, h4 hlt, List.length_drop⟩⟩

/-- `RawTable::insert` of an absent key: `grow_of_full_table` if the table is full, then `insert_no_grow`; the new element
    is in the main table when the call returns. -/
theorem Raw.insert_full (c : Cfg) (hR : 0 < c.R) (t : Raw) (e : Entry) (hits : Nat) (perm : List Nat)
    (h : Inv c.R t) (hfresh : e.k ∉ keysOf t.ents) :
    OkOrCap (Raw.insert c t e hits perm) (fun r =>
      e ∈ r.1.main.ents ∧ Inv c.R r.1 ∧ r.1.ents.Perm (e :: t.ents) ∧
      r.2.2.allocs ≤ 1 ∧ r.2.2.moved ≤ c.R ∧ r.2.2.hashes = r.2.2.moved ∧ r.2.2.dropped = [] ∧
      (0 < t.main.gl → r.2.2.allocs = 0 ∧ r.1.main.buckets = t.main.buckets ∧
        t.main.capacity ≤ r.1.main.capacity) ∧
      (∀ o, t.lo = some o →
        r.2.2.moved = min c.R o.ents.length ∧
        (o.ents.length ≤ c.R → r.1.lo = none) ∧
        (c.R < o.ents.length → ∃ o', r.1.lo = some o' ∧ o'.ents.length = o.ents.length - c.R))) := by
  unfold Raw.insert
  by_cases hgl : t.main.gl = 0
  · obtain ⟨hlo, hg⟩ := grow_of_full_table c hR t perm h hgl
    rw [if_pos hgl, hlo, Option.isSome_none, if_neg Bool.false_ne_true]
    refine hg.elim (fun _ => id) fun r hr => ?_
    obtain ⟨⟨t1, c1⟩, hi1, hp1, hroom1, ga, gd, gh, gm⟩ := r, hr
    dsimp only at hi1 hp1 hroom1 ga gd gh gm ⊢
    have hs := Raw.insertNoGrow_spec c hR t1 e hits hi1 hroom1 fun hin => hfresh ((keysOf_perm hp1).mem_iff.1 hin)
    refine hs.toCap.elim (fun _ => id) fun r hr => ?_
    obtain ⟨⟨t2, h2, c2⟩, hmain, hi2, hp2, -, -, sa, sm, sh, sd, -⟩ := r, hr
    dsimp only at hmain hi2 hp2 sa sm sh sd ⊢
    refine .ok ⟨hmain, hi2, hp2.trans (hp1.cons e), ?_, ?_, ?_, ?_, fun hpos => absurd hgl (Nat.ne_of_gt hpos), nofun⟩
    · rw [Cost.add_allocs, sa]; exact ga
    · rw [Cost.add_moved, gm, Nat.zero_add]; exact sm
    · rw [Cost.add_hashes, Cost.add_moved, gh, gm, Nat.zero_add, Nat.zero_add]; exact sh
    · rw [Cost.add_dropped, gd, sd]; rfl
  · rw [if_neg hgl]
    refine (Raw.insertNoGrow_spec c hR t e hits h (Nat.pos_of_ne_zero hgl) hfresh).toCap.mono fun r hr => ?_
    obtain ⟨s0, s1, s2, s3, s4, s5, s6, s7, s8, s9, -⟩ := hr
    exact ⟨s0, s1, s2, Nat.le_trans (Nat.le_of_eq s5) (Nat.zero_le 1), s6, s7, s8, fun _ => ⟨s5, s3, s4⟩, s9⟩

theorem Raw.insert_spec (c : Cfg) (hR : 0 < c.R) (t : Raw) (e : Entry) (hits : Nat) (perm : List Nat)
    (h : Inv c.R t) (hfresh : e.k ∉ keysOf t.ents) :
    OkOrCap (Raw.insert c t e hits perm) (fun r =>
      Inv c.R r.1 ∧ r.1.ents.Perm (e :: t.ents) ∧
      r.2.2.allocs ≤ 1 ∧ r.2.2.moved ≤ c.R ∧ r.2.2.hashes = r.2.2.moved ∧ r.2.2.dropped = [] ∧
      (0 < t.main.gl → r.2.2.allocs = 0 ∧ r.1.main.buckets = t.main.buckets ∧
        t.main.capacity ≤ r.1.main.capacity) ∧
      (∀ o, t.lo = some o →
        r.2.2.moved = min c.R o.ents.length ∧
        (o.ents.length ≤ c.R → r.1.lo = none) ∧
        (c.R < o.ents.length → ∃ o', r.1.lo = some o' ∧ o'.ents.length = o.ents.length - c.R))) :=
  (Raw.insert_full c hR t e hits perm h hfresh).mono fun _ hr => hr.2

theorem Raw.insert_in_main (c : Cfg) (hR : 0 < c.R) (t : Raw) (e : Entry) (hits : Nat) (perm : List Nat)
    (h : Inv c.R t) (hfresh : e.k ∉ keysOf t.ents) :
    OkOrCap (Raw.insert c t e hits perm) (fun r => e ∈ r.1.main.ents) :=
  (Raw.insert_full c hR t e hits perm h hfresh).mono fun _ hr => hr.1

end Griddle
