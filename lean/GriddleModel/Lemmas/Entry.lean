/-
  Entry / raw-entry handle chains: that the handle stays coherent with the map and the object ledger (vocabulary in
  `EntryLedger.lean`) both come from one case analysis of `Map.chainStep`, `chainStep_full`; what it establishes
  composes (`StepPost.trans`), so a chain of any depth establishes the same (`chain_full`).  `C12.chainApplicable` and
  `C06.chainIn` are defined here because `chain_full`, on which both C12 and C06 rest, is stated with them.
-/
import GriddleModel.Lemmas.EntryLedger
namespace Griddle

/-- a handle is coherent with the map: an occupied handle designates the element stored for its
    key, in the table it says; a vacant handle's key is absent -/
def HandleOK (m : Map) (k : Nat) : Map.ES → Prop
  | .occ loc _ => ∃ e, m.find k = some (loc, e)
  | .vac _ => m.find k = none
  | .done => True

theorem valueAt_of_find {m : Map} {k : Nat} {loc : Loc} {e : Entry}
    (hf : m.find k = some (loc, e)) : Map.valueAt m loc = some e := by
  unfold Map.valueAt HB.find?
  rcases find_inv hf with ⟨rfl, hm⟩ | ⟨rfl, -, o, ho, hm⟩
  · exact hm
  · simp only [Bool.false_eq_true, if_false, ho]
    exact hm

/-- writing a value through a handle: the element stays where it is, the invariant holds, and a
    lookup finds the written value -/
theorem setValAt_spec {R : Nat} {m : Map} (h : Inv R m) {k : Nat} {loc : Loc} {e : Entry}
    (hf : m.find k = some (loc, e)) (v vid : Nat) :
    Inv R (Map.setValAt m loc v vid) ∧
    (Map.setValAt m loc v vid).find k = some (loc, { e with v := v, vid := vid }) ∧
    (∀ k', absOf (Map.setValAt m loc v vid) k' = specUpd (absOf m) k v vid k') :=
  have hs := mapAt_spec h hf (fun y => { y with v := v, vid := vid }) (fun _ => rfl)
  ⟨hs.1, hs.2.1, absOf_mapAt h hf _ (fun _ => rfl)⟩

/-- replacing the stored key object (`replace_key`, `insert_key`): same element otherwise -/
theorem setKidAt_spec {R : Nat} {m : Map} (h : Inv R m) {k : Nat} {loc : Loc} {e : Entry}
    (hf : m.find k = some (loc, e)) (kid : Nat) :
    Inv R (Map.setKidAt m loc kid) ∧ (Map.setKidAt m loc kid).find k = some (loc, { e with kid := kid }) :=
  have hs := mapAt_spec h hf (fun y => { y with kid := kid }) (fun _ => rfl)
  ⟨hs.1, hs.2.1⟩

/-- the handle `Entry::insert` returns (`occ ⟨true, k⟩`) is coherent -/
theorem vacInsert_handle (c : Cfg) (hR : 0 < c.R) (m : Map) (e : Entry) (hits : Nat) (perm : List Nat)
    (h : Inv c.R m) (hvac : m.find e.k = none) :
    OkOrCap (Raw.insert c m e hits perm) (fun r =>
      Inv c.R r.1 ∧ r.1.find e.k = some (⟨true, e.k⟩, e) ∧ r.1.ents.Perm (e :: m.ents) ∧ r.2.2.dropped = []) := by
  refine (Raw.insert_full c hR m e hits perm h ((find_none_iff m e.k).1 hvac)).mono fun r hr => ?_
  obtain ⟨hin, hi, hp, -, -, -, hd, -⟩ := hr
  exact ⟨hi, (find_of_mem hi).1 hin, hp, hd⟩

/-- `replace_entry` / `replace_key` need the key the `OccupiedEntry` was created with; on a handle
    that has none (one returned by `Entry::insert`) the crate panics, as documented by hashbrown:
    "Panics if this OccupiedEntry was created through Entry::insert".  Such steps are excluded. -/
def Applicable (raw : Bool) : Map.ES → Map.EStep → Prop
  | .occ _ none, .occReplaceEntry _ _ => False
  | .occ _ none, .occReplaceKey _ => raw = true
  | _, _ => True

open Map

/-- What one step establishes, `ins` being the objects the caller created for it: the invariant, a coherent
    handle, and — for a handle as the API makes them — such a handle again and the ledger equation. -/
def StepPost (c : Cfg) (raw : Bool) (k : Nat) (m : Map) (st : ES) (acc : ChainAcc) (ins : List Nat)
    (r : Map × ES × ChainAcc) : Prop :=
  Inv c.R r.1 ∧ HandleOK r.1 k r.2.1 ∧
    (ESWF raw st → ESWF raw r.2.1 ∧
      msIds r.1.ents + restOf r.2.1 r.2.2 = msIds m.ents + (restOf st acc + ms ins))

theorem StepPost.refl {c : Cfg} {raw : Bool} {k : Nat} {m : Map} {st : ES} {acc : ChainAcc}
    (h : Inv c.R m) (hok : HandleOK m k st) : StepPost c raw k m st acc [] (m, st, acc) :=
  ⟨h, hok, fun hw => ⟨hw, by rw [ms_nil, add_zero]⟩⟩

/-- one step after another: the objects created add up -/
theorem StepPost.trans {c : Cfg} {raw : Bool} {k : Nat} {m : Map} {st : ES} {acc : ChainAcc} {i₁ i₂ : List Nat}
    {r₁ r₂ : Map × ES × ChainAcc} (h₁ : StepPost c raw k m st acc i₁ r₁)
    (h₂ : StepPost c raw k r₁.1 r₁.2.1 r₁.2.2 i₂ r₂) : StepPost c raw k m st acc (i₁ ++ i₂) r₂ :=
  ⟨h₂.1, h₂.2.1, fun hw => by
    obtain ⟨hw₁, l₁⟩ := h₁.2.2 hw
    obtain ⟨hw₂, l₂⟩ := h₂.2.2 hw₁
    exact ⟨hw₂, by rw [l₂, ← add_assoc, l₁, ms_append, add_assoc, add_assoc]⟩⟩

/-- a handle consumed by a terminal call ignores further steps -/
theorem chainStep_done (c : Cfg) (raw : Bool) (k : Nat) (m : Map) (acc : ChainAcc) (s : EStep) (o : Orc) :
    chainStep c raw k m .done acc s o = .ok (m, .done, acc) := by
  cases s <;> rfl

/-- rewriting the designated element once more, after steps that took the stored objects from `m` to `m'` -/
theorem mapAt_step {R : Nat} {m m' : Map} {k : Nat} {loc : Loc} {e' : Entry} {a : Multiset Nat}
    (g : Entry → Entry) (hg : ∀ x, (g x).k = x.k)
    (hs : Inv R m' ∧ m'.find k = some (loc, e') ∧ a + msIds m'.ents = ms e'.ids + msIds m.ents) :
    Inv R (mapAt m' loc g) ∧ (mapAt m' loc g).find k = some (loc, g e') ∧
      a + msIds (mapAt m' loc g).ents = ms (g e').ids + msIds m.ents := by
  obtain ⟨hi, hf, key⟩ := hs
  have hm := mapAt_spec hi hf g hg
  refine ⟨hm.1, hm.2.1, add_left_cancel (a := ms e'.ids + msIds m'.ents) ?_⟩
  calc ms e'.ids + msIds m'.ents + (a + msIds (mapAt m' loc g).ents)
      = (a + msIds m'.ents) + (ms e'.ids + msIds (mapAt m' loc g).ents) := by abel
    _ = (ms e'.ids + msIds m.ents) + (ms (g e').ids + msIds m'.ents) := by rw [key, msIds_mapAt hi hf g hg]
    _ = _ := by abel

open Map in
/-- **One handle step** (any step kind, handle state, API flavour, oracle).  `chainStep` does one of five things to
    the map — nothing, an in-place write (`mapAt_step`), an insertion through a vacant handle (`vacInsert_handle`),
    `remove` (`removeAt_spec`), `replace_bucket_with` (`replaceAt_some_eq`, `replaceAt_none_spec`) — each of which
    gives the invariant, the outgoing handle's coherence and an equation between the objects stored before and after;
    what is left case by case is that the step's bookkeeping accounts for the difference. -/
theorem chainStep_full (c : Cfg) (hR : 0 < c.R) (raw : Bool) (k : Nat) (m : Map) (st : ES) (acc : ChainAcc)
    (s : EStep) (o : Orc) (h : Inv c.R m) (hok : HandleOK m k st) (happ : Applicable raw st s) :
    OkOrCap (chainStep c raw k m st acc s o) (StepPost c raw k m st acc (stepIn raw st s)) := by
  -- the map is left alone and the handle is consumed (or was)
  have drop : StepPost c raw k m st acc [] (m, .done, { acc with cost := acc.cost + { dropped := heldIds st } }) :=
    ⟨h, trivial, fun _ => ⟨trivial, congrArg _ ((restOf_drop st acc).trans (add_zero _).symm)⟩⟩
  cases st with
  | done =>
    rw [chainStep_done]
    exact .ok (.refl h trivial)
  | vac key =>
    have hvac : m.find k = none := hok
    have same : StepPost c raw k m (.vac key) acc [] (m, .vac key, acc) := .refl h hvac
    -- inserting through the vacant handle (the `match` is `chainStep`'s local `vacIns`, copied: edit it with the model)
    have vins : ∀ (rehash keep : Bool) (kid v vid : Nat),
        OkOrCap (match Raw.insert c m { k := k, kid := (if raw then kid else key.getD kid), v := v, vid := vid }
                    o.hits o.perm with
                 | .error f => .error f
                 | .ok (m', _, cost) =>
                   (.ok (m', (if keep then ES.occ ⟨true, k⟩ none else ES.done),
                      { acc with cost := acc.cost + { hashes := if rehash then 1 else 0 } + cost,
                                 seen := some (v, vid) }) : Except Fault (Map × ES × ChainAcc)))
          (StepPost c raw k m (.vac key) acc (vid :: (if raw then [kid] else []))) := by
      intro rehash keep kid v vid
      have hs := vacInsert_handle c hR m { k := k, kid := (if raw then kid else key.getD kid), v := v, vid := vid }
        o.hits o.perm h hvac
      refine hs.elim (fun _ => id) fun r hr => ?_
      obtain ⟨hi, hf, hp, hd⟩ := hr
      obtain ⟨m', _, cost⟩ := r
      dsimp only at hi hf hp hd ⊢
      refine .ok ⟨hi, by cases keep <;> [trivial; exact ⟨_, hf⟩], fun hw => ⟨by cases keep <;> [trivial; exact fun _ => rfl], ?_⟩⟩
      have hheld : ms (heldIds (if keep then ES.occ ⟨true, k⟩ none else ES.done)) = 0 := by cases keep <;> rfl
      -- the stored key object is the one passed (raw API) or the one the handle owned
      have hkid : ms [if raw then kid else key.getD kid] = ms (heldIds (.vac key)) + ms (if raw then [kid] else []) := by
        cases raw with
        | true => rw [show key = none from hw.1 rfl]; exact (zero_add _).symm
        | false => obtain ⟨x, rfl⟩ := hw.2 rfl; exact (add_zero _).symm
      simp only [restOf, Cost.add_dropped, hd, List.append_nil, hheld, msIds_perm hp, msIds_cons, Entry.ids,
        ms_pair, ms_cons vid (if raw then [kid] else []), hkid]
      abel
    cases s with
    | andModify add => exact .ok same
    | andReplace keep add => exact .ok same
    | insert kid v vid add => exact vins raw true kid (v + add) vid
    | orInsert lzy kid v vid add => exact vins raw false kid (v + add) vid
    | vacInsert rehash kid v vid add => exact vins rehash false kid (v + add) vid
    | vacIntoKey =>
      refine .ok ⟨h, trivial, fun _ => ⟨trivial, ?_⟩⟩
      simp only [restOf, heldIds, ms_append, ms_nil]
      abel
    | _ => exact .ok drop   -- a step of `OccupiedEntry`: the handle is dropped
  | occ loc spare =>
    obtain ⟨e, hf⟩ := hok
    have hva := valueAt_of_find hf
    have eids : ms e.ids = ms [e.kid] + ms [e.vid] := ms_pair _ _
    -- an in-place write: the handle stays as it is, or is consumed
    have write : ∀ {m' : Map} {e' : Entry} {st' : ES} {acc' : ChainAcc} {ins : List Nat},
        Inv c.R m' ∧ m'.find k = some (loc, e') ∧ ms e.ids + msIds m'.ents = ms e'.ids + msIds m.ents →
        st' = .occ loc spare ∨ st' = .done →
        ms e'.ids + restOf st' acc' = ms e.ids + (restOf (.occ loc spare) acc + ms ins) →
        StepPost c raw k m (.occ loc spare) acc ins (m', st', acc') := by
      rintro m' e' st' acc' ins ⟨hi, hf', key⟩ (rfl | rfl) hbal
      · exact ⟨hi, ⟨_, hf'⟩, fun hw => ⟨hw, ms_swap key hbal⟩⟩
      · exact ⟨hi, trivial, fun _ => ⟨trivial, ms_swap key hbal⟩⟩
    have start : Inv c.R m ∧ m.find k = some (loc, e) ∧ ms e.ids + msIds m.ents = ms e.ids + msIds m.ents :=
      ⟨h, hf, rfl⟩
    have setv := fun v vid => mapAt_step (fun y => { y with v := v, vid := vid }) (fun _ => rfl) start
    have setk := fun kid => mapAt_step (fun y => { y with kid := kid }) (fun _ => rfl) start
    -- … in particular `+= add`, which keeps the value object
    have bump : ∀ {st' : ES} {acc' : ChainAcc} {ins : List Nat} (add : Nat), st' = .occ loc spare ∨ st' = .done →
        restOf st' acc' = restOf (.occ loc spare) acc + ms ins →
        StepPost c raw k m (.occ loc spare) acc ins (setValAt m loc (e.v + add) e.vid, st', acc') :=
      fun add hst hbal => write (setv (e.v + add) e.vid) hst (congrArg (ms e.ids + ·) hbal)
    -- removal: the element comes back, the handle is consumed
    obtain ⟨mr, cr, hrem, hir, hpr, -, -, -, -, -, hdr, -⟩ := removeAt_spec hR h hf (decide (0 < o.empt))
    have hMr : msIds m.ents = ms e.ids + msIds mr.ents := by rw [← msIds_perm hpr, msIds_cons]
    -- `replace_entry_with(.., None)`: the value is dropped with the spare key; the stored key object passes to the
    -- vacant handle (raw API: is dropped too)
    obtain ⟨me, hrep, hie, hpe, hgone⟩ := replaceAt_none_spec h hf (decide (0 < o.empt))
    have gone : StepPost c raw k m (.occ loc spare) acc [] (me, .vac (if raw then none else some e.kid),
        { acc with cost := acc.cost + { dropped := [e.vid] ++ optIds spare ++ (if raw then [e.kid] else []) } }) := by
      refine ⟨hie, hgone, fun _ => ⟨ESWF_vac raw e.kid, ?_⟩⟩
      have hkid : ms (if raw then [e.kid] else []) + ms (optIds (if raw then none else some e.kid)) = ms [e.kid] := by
        cases raw <;> [exact zero_add _; exact add_zero _]
      simp only [restOf, Cost.add_dropped, ms_append, heldIds, ms_nil, ← msIds_perm hpe, msIds_cons, eids, ← hkid]
      abel
    unfold Map.chainStep stepIn
    cases s with
    | andModify add =>
      simp only [hva]
      exact .ok (bump add (.inl rfl) (add_zero _).symm)
    | andReplace keep add | occReplaceWith keep add =>
      simp only [hva]
      cases keep with
      | true =>
        rw [if_pos rfl, replaceAt_some_eq hf (e.v + add) e.vid]
        exact .ok (bump add (.inl rfl) (add_zero _).symm)
      | false =>
        rw [if_neg Bool.false_ne_true, hrep]
        exact .ok gone
    | insert kid v vid add =>
      simp only [hva]
      refine .ok (write (setv (v + add) vid) (.inl rfl) ?_)
      simp only [restOf, Cost.add_dropped, ms_append, Entry.ids, ms_pair, ms_cons vid (if raw then [kid] else [])]
      abel
    | orInsert lzy kid v vid add =>
      simp only [hva]
      refine .ok (bump add (.inr rfl) ?_)
      simp only [restOf, Cost.add_dropped, ms_append, heldIds, ms_nil]
      abel
    | occRemove =>
      simp only [hrem]
      refine .ok ⟨hir, trivial, fun _ => ⟨trivial, ?_⟩⟩
      simp only [restOf, Cost.add_dropped, hdr, List.append_nil, ms_append, heldIds, ms_nil, hMr, eids]
      abel
    | occRemoveEntry =>
      simp only [hrem]
      refine .ok ⟨hir, trivial, fun _ => ⟨trivial, ?_⟩⟩
      simp only [restOf, Cost.add_dropped, hdr, List.append_nil, ms_append, heldIds, ms_nil, hMr]
      abel
    | occInsert v vid =>
      simp only [hva]
      refine .ok (write (setv v vid) (.inl rfl) ?_)
      simp only [restOf, ms_append, Entry.ids, ms_pair]
      abel
    | occReplaceEntry v vid =>
      simp only [hva]
      cases spare with
      | none => exact happ.elim
      | some sk =>
        refine .ok (write (mapAt_step (fun y => { y with kid := sk }) (fun _ => rfl) (setv v vid)) (.inr rfl) ?_)
        simp only [restOf, ms_append, heldIds, optIds, ms_nil, Entry.ids, ms_pair]
        abel
    | occReplaceKey kid =>
      simp only [hva]
      cases raw with
      | true =>
        refine .ok (write (setk kid) (.inl rfl) ?_)
        simp only [if_true, restOf, ms_append, Entry.ids, ms_pair]
        abel
      | false =>
        cases spare with
        | none => cases happ
        | some sk =>
          refine .ok (write (setk sk) (.inr rfl) ?_)
          simp only [Bool.false_eq_true, if_false, restOf, ms_append, heldIds, optIds, ms_nil, Entry.ids, ms_pair]
          abel
    | occGetMut add =>
      simp only [hva]
      exact .ok (bump add (.inl rfl) (add_zero _).symm)
    | _ => exact .ok drop   -- a step of `VacantEntry`: the handle is dropped

open Map in
theorem chainStep_ok (c : Cfg) (hR : 0 < c.R) (raw : Bool) (k : Nat) (m : Map) (st : ES) (acc : ChainAcc)
    (s : EStep) (o : Orc) (h : Inv c.R m) (hok : HandleOK m k st) (happ : Applicable raw st s) :
    OkOrCap (chainStep c raw k m st acc s o) (fun r => Inv c.R r.1 ∧ HandleOK r.1 k r.2.1) :=
  (chainStep_full c hR raw k m st acc s o h hok happ).mono fun _ hr => ⟨hr.1, hr.2.1⟩

open Map in
theorem chainStep_ledger (c : Cfg) (hR : 0 < c.R) (raw : Bool) (k : Nat) (m : Map) (st : ES) (acc : ChainAcc)
    (s : EStep) (o : Orc) (h : Inv c.R m) (hok : HandleOK m k st) (hwf : ESWF raw st) (happ : Applicable raw st s) :
    OkOrCap (chainStep c raw k m st acc s o) (fun r =>
      ESWF raw r.2.1 ∧
      msIds r.1.ents + restOf r.2.1 r.2.2 = msIds m.ents + (restOf st acc + ms (stepIn raw st s))) :=
  (chainStep_full c hR raw k m st acc s o h hok happ).mono fun _ hr => hr.2.2 hwf

namespace C12

/-- every step of the chain is applicable to the handle it meets -/
def chainApplicable (c : Cfg) (raw : Bool) (k : Nat) : List EStep → Map → ES → ChainAcc → Orc → Prop
  | [], _, _, _, _ => True
  | s :: rest, m, st, acc, o =>
    Applicable raw st s ∧ ∀ m' st' acc', chainStep c raw k m st acc s (o.digit (c.R + 2)) = .ok (m', st', acc') →
      chainApplicable c raw k rest m' st' acc' (o.shift (c.R + 2))

end C12

namespace C06

/-- the objects the caller creates along a chain (a step's objects only exist if the step applies
    to the handle it meets) -/
def chainIn (c : Cfg) (raw : Bool) (k : Nat) : List EStep → Map → ES → ChainAcc → Orc → List Nat
  | [], _, _, _, _ => []
  | s :: rest, m, st, acc, o =>
    stepIn raw st s ++
      (match chainStep c raw k m st acc s (o.digit (c.R + 2)) with
       | .ok (m', st', acc') => chainIn c raw k rest m' st' acc' (o.shift (c.R + 2))
       | .error _ => [])

end C06

/-- **Chains of any depth** establish what one step establishes, for the objects created along the way. -/
theorem chain_full (c : Cfg) (hR : 0 < c.R) (raw : Bool) (k : Nat) :
    ∀ (steps : List EStep) (o : Orc) (m : Map) (st : ES) (acc : ChainAcc),
      Inv c.R m → HandleOK m k st → C12.chainApplicable c raw k steps m st acc o →
      OkOrCap (chainLoop c raw k steps m st acc o)
        (StepPost c raw k m st acc (C06.chainIn c raw k steps m st acc o)) := by
  intro steps
  induction steps with
  | nil => exact fun o m st acc h hok _ => .ok (.refl h hok)
  | cons s rest ih =>
    intro o m st acc h hok happ
    unfold chainLoop C06.chainIn
    have hs := chainStep_full c hR raw k m st acc s (o.digit (c.R + 2)) h hok happ.1
    have hrest := happ.2
    revert hrest
    -- `chainApplicable` and `chainIn` speak of the state the step returns: it stays a variable while eliminated
    refine hs.elim (fun _ he _ => he) fun r hr hrest => ?_
    exact (ih _ r.1 r.2.1 r.2.2 hr.1 hr.2.1 (hrest _ _ _ rfl)).mono fun _ => hr.trans

/-- `entryChain` with its two local `match`es named: the call reports Occupied iff the lookup found the key, and
    dropping the handle at the end drops the key object it still holds -/
theorem entryChain_eq (c : Cfg) (raw : Bool) (lh : Nat) (m : Map) (k kid : Nat) (steps : List EStep) (o : Orc) :
    entryChain c raw lh m k kid steps o =
      match chainLoop c raw k steps m (lookupState raw m k kid) { cost := { hashes := lh } } o with
      | .error f => .error f
      | .ok (m', st, acc) => .ok (m', { ret := .chain (m.find k).isSome acc.seen,
                                        cost := acc.cost + { dropped := heldIds st }, returned := acc.returned }) := by
  unfold entryChain
  dsimp only
  cases chainLoop c raw k steps m (lookupState raw m k kid) { cost := { hashes := lh } } o with
  | error f => rfl
  | ok r =>
    obtain ⟨m', st, acc⟩ := r
    unfold lookupState
    cases m.find k <;> cases st <;> rfl

end Griddle
