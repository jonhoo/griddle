/-
  Lookups by key in lists of entries; the `reorder` oracle.
-/
import Mathlib.Data.List.Nodup
import Batteries.Data.List.Perm
import GriddleModel.Lemmas.Kernel
namespace Griddle

theorem mem_keysOf {es : List Entry} {x : Entry} (hx : x ∈ es) : x.k ∈ keysOf es := List.mem_map_of_mem hx

theorem keysOf_cons_nodup {e : Entry} {es : List Entry} :
    (keysOf (e :: es)).Nodup ↔ e.k ∉ keysOf es ∧ (keysOf es).Nodup := List.nodup_cons

theorem find_key_of_mem {es : List Entry} (h : (keysOf es).Nodup) {x : Entry} (hx : x ∈ es) :
    es.find? (fun e => e.k == x.k) = some x := by
  induction es with
  | nil => cases hx
  | cons a rest ih =>
    obtain ⟨hna, hnd⟩ := keysOf_cons_nodup.1 h
    rcases List.mem_cons.1 hx with rfl | hin
    · exact List.find?_cons_of_pos (beq_self_eq_true _)
    · have hne : ¬(a.k == x.k) = true := fun hb => hna (beq_iff_eq.1 hb ▸ mem_keysOf hin)
      rw [List.find?_cons_of_neg (by exact hne)]
      exact ih hnd hin

theorem find_key_none {es : List Entry} {k : Nat} : es.find? (fun e => e.k == k) = none ↔ k ∉ keysOf es := by
  rw [List.find?_eq_none, keysOf, List.mem_map]
  exact ⟨fun h ⟨x, hx, hk⟩ => h x hx (beq_iff_eq.2 hk), fun h x hx hb => h ⟨x, hx, beq_iff_eq.1 hb⟩⟩

theorem find_key_some {es : List Entry} {k : Nat} {x : Entry} (h : es.find? (fun e => e.k == k) = some x) :
    x ∈ es ∧ x.k = k := by
  refine ⟨List.mem_of_find?_eq_some h, ?_⟩
  have := List.find?_some h
  simpa using this

/-- in a duplicate-free table a lookup by key is membership -/
theorem find_key_iff {es : List Entry} (hnd : (keysOf es).Nodup) {k : Nat} {x : Entry} :
    es.find? (fun e => e.k == k) = some x ↔ x ∈ es ∧ x.k = k :=
  ⟨find_key_some, fun ⟨hx, hk⟩ => hk ▸ find_key_of_mem hnd hx⟩

theorem filter_key_absent {es : List Entry} {k : Nat} (h : k ∉ keysOf es) : es.filter (fun y => y.k != k) = es :=
  List.filter_eq_self.2 fun y hy => by simpa using fun heq : y.k = k => h (heq ▸ mem_keysOf hy)

theorem filter_key_perm {es : List Entry} {x : Entry} (hnd : (keysOf es).Nodup) (hx : x ∈ es) :
    (x :: es.filter (fun y => y.k != x.k)).Perm es := by
  induction es with
  | nil => cases hx
  | cons a rest ih =>
    obtain ⟨hna, hnd⟩ := keysOf_cons_nodup.1 hnd
    rcases List.mem_cons.1 hx with rfl | hin
    · rw [List.filter_cons_of_neg (by rw [bne_self_eq_false]; exact Bool.false_ne_true), filter_key_absent hna]
    · have hne : (a.k != x.k) = true := bne_iff_ne.2 fun heq => hna (heq ▸ mem_keysOf hin)
      rw [List.filter_cons_of_pos (by exact hne)]
      exact (List.Perm.swap a x _).trans ((ih hnd hin).cons a)

theorem filter_key_length {es : List Entry} {x : Entry} (hnd : (keysOf es).Nodup) (hx : x ∈ es) :
    (es.filter (fun y => y.k != x.k)).length + 1 = es.length := by
  have := (filter_key_perm hnd hx).length_eq
  simpa [Nat.add_comm] using this

theorem filter_key_nodup {es : List Entry} (k : Nat) (hnd : (keysOf es).Nodup) :
    (keysOf (es.filter (fun y => y.k != k))).Nodup := by
  unfold keysOf at *
  exact List.Nodup.sublist (List.Sublist.map _ List.filter_sublist) hnd

theorem filter_key_not_mem {es : List Entry} (k : Nat) : k ∉ keysOf (es.filter (fun y => y.k != k)) := by
  intro h
  obtain ⟨x, hx, rfl⟩ := List.mem_map.1 h
  have := (List.mem_filter.1 hx).2
  rw [bne_self_eq_false] at this
  cases this

theorem mem_keysOf_filter {es : List Entry} {k k0 : Nat} (hk : k ≠ k0) (hin : k ∈ keysOf es) :
    k ∈ keysOf (es.filter (fun x => x.k != k0)) := by
  obtain ⟨e, he, rfl⟩ := List.mem_map.1 hin
  exact mem_keysOf (List.mem_filter.2 ⟨he, by simpa using hk⟩)

theorem keysOf_map_same {es : List Entry} (f : Entry → Entry) (hf : ∀ e, (f e).k = e.k) :
    keysOf (es.map f) = keysOf es := by
  simp [keysOf, List.map_map, Function.comp_def, hf]

/-- The abstract map a list of entries denotes; `lookupIn_cons`, `lookupIn_map_at` and `lookupIn_filter_ne` are the
    list-level `specIns`, `specUpd` and `specDel`. -/
def lookupIn (es : List Entry) (k : Nat) : Option Entry := es.find? (fun e => e.k == k)

theorem lookupIn_perm {a b : List Entry} (hp : a.Perm b) (hnd : (keysOf b).Nodup) (k : Nat) :
    lookupIn a k = lookupIn b k :=
  Option.ext fun x => by
    rw [lookupIn, lookupIn, find_key_iff ((keysOf_perm hp).nodup_iff.2 hnd), find_key_iff hnd, hp.mem_iff]

theorem lookupIn_cons (e : Entry) (es : List Entry) (k' : Nat) :
    lookupIn (e :: es) k' = if k' = e.k then some e else lookupIn es k' := by
  unfold lookupIn
  by_cases hk : k' = e.k
  · rw [if_pos hk, hk, List.find?_cons_of_pos (by exact beq_self_eq_true _)]
  · rw [if_neg hk, List.find?_cons_of_neg (by simpa using Ne.symm hk)]

theorem lookupIn_map_key (es : List Entry) (f : Entry → Entry) (hf : ∀ e, (f e).k = e.k) (k' : Nat) :
    lookupIn (es.map f) k' = (lookupIn es k').map f := by
  unfold lookupIn
  rw [List.find?_map]
  exact congrArg (fun p => (es.find? p).map f) (funext fun e => by rw [Function.comp_apply, hf])

theorem atKey_k (k : Nat) {g : Entry → Entry} (hg : ∀ x, (g x).k = x.k) (y : Entry) :
    (if y.k == k then g y else y).k = y.k := by
  split <;> [exact hg y; rfl]

theorem lookupIn_map_at (es : List Entry) (k : Nat) (g : Entry → Entry) (hg : ∀ x, (g x).k = x.k) (k' : Nat) :
    lookupIn (es.map fun y => if y.k == k then g y else y) k' = if k' = k then (lookupIn es k).map g else lookupIn es k' := by
  rw [lookupIn_map_key es _ (atKey_k k hg) k']
  -- what is found under `k'` has key `k'`, so the `if` inside the rewrite is decided by `k' = k`
  split
  · next hk =>
    subst hk
    exact Option.map_congr fun x hx => if_pos (beq_iff_eq.2 (find_key_some hx).2)
  · next hk =>
    refine (Option.map_congr fun x hx => if_neg fun hb => hk ?_).trans Option.map_id'
    rw [← (find_key_some hx).2]
    exact beq_iff_eq.1 hb

theorem lookupIn_filter_ne (es : List Entry) (k k' : Nat) :
    lookupIn (es.filter fun x => x.k != k) k' = if k' = k then none else lookupIn es k' := by
  split
  · next hk => subst hk; exact find_key_none.2 (filter_key_not_mem k')
  · next hk =>
    unfold lookupIn
    rw [List.find?_filter]
    exact congrArg (es.find? ·) (funext fun x => by
      by_cases hx : x.k = k' <;> simp [hx, hk])

theorem mem_keysOf_of_isSome {es : List Entry} {k : Nat} (h : (es.find? (fun e => e.k == k)).isSome) : k ∈ keysOf es :=
  Classical.not_not.1 fun hn => by rw [find_key_none.2 hn] at h; cases h

/-- looking every key of a duplicate-free table up, in table order, reproduces the table -/
theorem lookup_keys {es : List Entry} (hnd : (keysOf es).Nodup) : (keysOf es).filterMap (lookupIn es) = es := by
  rw [keysOf, List.filterMap_map]
  exact (List.filterMap_congr fun e he => find_key_of_mem hnd he).trans List.filterMap_some

/-- … and in any other order a permutation of it: what `iter`, `drain` and the table a growth parks have in common -/
theorem lookup_keys_perm {es : List Entry} {ks : List Nat} (hnd : (keysOf es).Nodup) (hks : ks.Perm (keysOf es)) :
    (ks.filterMap (lookupIn es)).Perm es :=
  (hks.filterMap _).trans (.of_eq (lookup_keys hnd))

/-- a duplicate-free list of keys of `es` that is as long as `es` enumerates them -/
theorem keys_perm_of_length {es : List Entry} {ks : List Nat} (hlen : ks.length = es.length) (hnd : ks.Nodup)
    (hall : ∀ k ∈ ks, k ∈ keysOf es) : ks.Perm (keysOf es) :=
  (List.subperm_of_subset hnd hall).perm_of_length_le (by rw [hlen, keysOf, List.length_map]; exact Nat.le_refl _)

theorem reorder_perm {es es' : List Entry} {perm : List Nat} (hnd : (keysOf es).Nodup)
    (h : Raw.reorder es perm = some es') : es'.Perm es := by
  unfold Raw.reorder at h
  split at h
  · next hc =>
    cases h
    exact lookup_keys_perm hnd (keys_perm_of_length hc.1 hc.2.1 fun k hk => mem_keysOf_of_isSome (hc.2.2.1 k hk))
  · cases h

theorem reorder_length {es es' : List Entry} {perm : List Nat} (hnd : (keysOf es).Nodup)
    (h : Raw.reorder es perm = some es') : es'.length = es.length :=
  (reorder_perm hnd h).length_eq

end Griddle
