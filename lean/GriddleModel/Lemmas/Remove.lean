/-
  Taking a located element out: `remove(bucket)`, `erase(bucket)` and `replace_bucket_with(bucket, |_| None)` all
  filter the key out of the table `find` named (`filterAt`); under the invariant the key is in no other table, so it is
  filtered out of *both*, hence out of all entries (`filterAt_spec`).  `remove` also releases an old table it has
  emptied; `erase` and `replace_bucket_with` — the routes of `retain` and `replace_entry_with` — leave it parked.
-/
import GriddleModel.Map
import GriddleModel.Lemmas.Find
namespace Griddle

/-- The state `erase(bucket)` leaves: the key filtered out of the table `loc` names, that table's counter adjusted. -/
def filterAt (t : Raw) (loc : Loc) (toEmpty : Bool) : Raw :=
  if loc.inMain then
    { t with main := { t.main with ents := t.main.ents.filter (fun x => x.k != loc.k),
                                   gl := if toEmpty then t.main.gl + 1 else t.main.gl } }
  else { t with lo := t.lo.map fun o => { o with ents := o.ents.filter (fun x => x.k != loc.k), cursor := o.cursor - 1 } }

theorem filterAt_spec {R : Nat} {t : Raw} (h : Inv R t) {k : Nat} {loc : Loc} {e : Entry}
    (hf : t.find k = some (loc, e)) (toEmpty : Bool) :
    Inv R (filterAt t loc toEmpty) ∧
    (filterAt t loc toEmpty).main.ents = t.main.ents.filter (fun x => x.k != k) ∧
    oldEnts (filterAt t loc toEmpty) = (oldEnts t).filter (fun x => x.k != k) ∧
    (filterAt t loc toEmpty).main.buckets = t.main.buckets ∧ t.main.gl ≤ (filterAt t loc toEmpty).main.gl ∧
    (filterAt t loc toEmpty).lo.isSome = t.lo.isSome := by
  -- `Inv` from the other conjuncts: what is left has distinct keys because it is a sublist
  have inv : ∀ {t' : Raw}, t'.main.WF → (∀ o, t'.lo = some o → o.cursor = o.ents.length) →
      (∀ o, t'.lo = some o → o.ents.length + ceilDiv o.ents.length R ≤ t'.main.gl ∧ 1 ≤ t'.main.gl) →
      t'.main.ents = t.main.ents.filter (fun x => x.k != k) → oldEnts t' = (oldEnts t).filter (fun x => x.k != k) →
      Inv R t' := fun w a hd hm ho =>
    ⟨w, a, hd, by rw [Raw.ents_eq_oldEnts, hm, ho, ← List.filter_append]; exact filter_key_nodup k h.nodup⟩
  obtain ⟨rfl, ⟨rfl, hin⟩ | ⟨rfl, o, ho, hin⟩⟩ := find_cases hf
  · have hl := filter_key_length h.main_nodup hin
    have hold := (filter_key_absent (h.not_mem_oldEnts (mem_keysOf hin))).symm
    -- the counter takes back at most the unit of the element that left
    have hgl : t.main.gl ≤ (filterAt t ⟨true, e.k⟩ toEmpty).main.gl ∧
        (filterAt t ⟨true, e.k⟩ toEmpty).main.gl ≤ t.main.gl + 1 := by
      cases toEmpty
      · exact ⟨Nat.le_refl _, Nat.le_succ _⟩
      · exact ⟨Nat.le_succ _, Nat.le_refl _⟩
    refine ⟨inv ?_ h.agree (fun o ho => headroom_mono (Nat.le_refl _) hgl.1 (h.head o ho)) rfl hold, rfl, hold, rfl,
      hgl.1, rfl⟩
    show (t.main.ents.filter fun y => y.k != e.k).length + _ ≤ fullCap t.main.buckets
    refine Nat.le_trans (Nat.add_le_add_left hgl.2 _) ?_
    rw [← Nat.add_assoc, Nat.add_right_comm, hl]
    exact h.wf
  · have hl := filter_key_length (h.old_nodup ho) hin
    have hmain := (filter_key_absent fun hk => h.disjoint ho hk (mem_keysOf hin)).symm
    rw [show filterAt t ⟨false, e.k⟩ toEmpty = { t with lo := some { o with
      ents := o.ents.filter (fun x => x.k != e.k), cursor := o.cursor - 1 } } by unfold filterAt; rw [ho]; rfl]
    have hold := congrArg (List.filter fun x => x.k != e.k) (oldEnts_of_some ho).symm
    refine ⟨inv h.wf ?_ ?_ hmain hold, hmain, hold, rfl, Nat.le_refl _, by rw [ho]; rfl⟩
    · rintro _ ⟨rfl⟩
      rw [h.agree o ho, ← hl]
      exact Nat.add_sub_cancel ..
    · rintro _ ⟨rfl⟩
      exact headroom_mono (List.length_filter_le ..) (Nat.le_refl _) (h.head o ho)

theorem filterAt_ents {R : Nat} {t : Raw} (h : Inv R t) {k : Nat} {loc : Loc} {e : Entry}
    (hf : t.find k = some (loc, e)) (toEmpty : Bool) :
    (filterAt t loc toEmpty).ents = t.ents.filter (fun x => x.k != k) := by
  obtain ⟨_, hm, ho, _⟩ := filterAt_spec h hf toEmpty
  rw [Raw.ents_eq_oldEnts, hm, ho, Raw.ents_eq_oldEnts t, List.filter_append]

theorem filterAt_perm {R : Nat} {t : Raw} (h : Inv R t) {k : Nat} {loc : Loc} {e : Entry}
    (hf : t.find k = some (loc, e)) (toEmpty : Bool) : (e :: (filterAt t loc toEmpty).ents).Perm t.ents := by
  obtain ⟨-, rfl, hin⟩ := find_loc hf
  rw [filterAt_ents h hf]
  exact filter_key_perm h.nodup hin

/-- The three routes by which a located element leaves the map: `erase(bucket)` drops it, `replace_bucket_with(bucket,
    |_| None)` leaves the same state (the repaired ordering: the cursor hears of the removal *before* the bucket is
    vacated), `remove(bucket)` hands it back and releases an old table it has emptied.  No invariant is needed. -/
theorem filterAt_routes {t : Raw} {k : Nat} {loc : Loc} {e : Entry} (hf : t.find k = some (loc, e)) (b : Bool) :
    Raw.eraseAt t loc b = .ok (filterAt t loc b, { dropped := e.ids }) ∧
    Raw.replaceAt t loc none b = .ok (filterAt t loc b, false) ∧
    Raw.removeAt t loc b =
      if loc.inMain = false ∧ (oldEnts (filterAt t loc b)).length = 0
      then .ok ({ filterAt t loc b with lo := none }, e, { frees := 1 })
      else .ok (filterAt t loc b, e, {}) := by
  unfold Raw.eraseAt Raw.replaceAt Raw.removeAt filterAt HB.removeKey HB.find?
  rcases find_inv hf with ⟨rfl, hm⟩ | ⟨rfl, -, o, ho, hm⟩
  · rw [hm]
    exact ⟨rfl, rfl, rfl⟩
  · simp only [Bool.false_eq_true, if_false, ho, hm, Option.map, oldEnts, true_and]
    split <;> rfl

theorem removeAt_tables {R : Nat} {t t' : Raw} (h : Inv R t) {k : Nat} {loc : Loc} {e e' : Entry} {b : Bool} {c : Cost}
    (hf : t.find k = some (loc, e)) (he : Raw.removeAt t loc b = .ok (t', e', c)) :
    t'.main.ents = t.main.ents.filter (fun x => x.k != k) ∧ oldEnts t' = (oldEnts t).filter (fun x => x.k != k) ∧
    t'.ents = t.ents.filter (fun x => x.k != k) := by
  obtain ⟨-, hm, ho, -⟩ := filterAt_spec h hf b
  have he' := filterAt_ents h hf b
  rw [(filterAt_routes hf b).2.2] at he
  split at he <;> cases he
  · next h0 => exact ⟨hm, (List.eq_nil_of_length_eq_zero (ho ▸ h0.2)).symm, by rwa [Raw.ents_release h0.2]⟩
  · exact ⟨hm, ho, he'⟩

theorem removeAt_spec {R : Nat} (hR : 0 < R) {t : Raw} (h : Inv R t) {k : Nat} {loc : Loc} {e : Entry}
    (hf : t.find k = some (loc, e)) (toEmpty : Bool) :
    ∃ t' cost, Raw.removeAt t loc toEmpty = .ok (t', e, cost) ∧ Inv R t' ∧
      (e :: t'.ents).Perm t.ents ∧ t'.main.buckets = t.main.buckets ∧ t.main.gl ≤ t'.main.gl ∧
      cost.allocs = 0 ∧ cost.hashes = 0 ∧ cost.moved = 0 ∧ cost.dropped = [] ∧
      (∀ o, t.lo = some o → loc.inMain = false →
        (o.ents.length = 1 → t'.lo = none ∧ cost.frees = 1) ∧
        (1 < o.ents.length → ∃ o', t'.lo = some o' ∧ o'.ents.length + 1 = o.ents.length ∧ cost.frees = 0)) ∧
      (loc.inMain = true → t'.lo = t.lo ∧ cost.frees = 0) := by
  obtain ⟨hi, -, ho, hb, hg, -⟩ := filterAt_spec h hf toEmpty
  have hp := filterAt_perm h hf toEmpty
  rw [(filterAt_routes hf toEmpty).2.2]
  obtain ⟨rfl, ⟨rfl, -⟩ | ⟨rfl, o, hlo, hin⟩⟩ := find_cases hf
  · exact ⟨_, _, if_neg (fun hc => nomatch hc.1), hi, hp, hb, hg, rfl, rfl, rfl, rfl, nofun, fun _ => ⟨rfl, rfl⟩⟩
  · -- one element fewer is parked; the old table goes exactly when none is left
    have hl := filter_key_length (h.old_nodup hlo) hin
    rw [oldEnts_of_some hlo] at ho
    rw [← ho] at hl
    by_cases h0 : (oldEnts (filterAt t ⟨false, e.k⟩ toEmpty)).length = 0
    · refine ⟨_, _, if_pos ⟨rfl, h0⟩, hi.release h0, by rwa [Raw.ents_release h0], hb, hg, rfl, rfl, rfl, rfl, ?_, nofun⟩
      intro o' ho' _
      obtain rfl : o = o' := Option.some.inj (hlo.symm.trans ho')
      refine ⟨fun _ => ⟨rfl, rfl⟩, fun h1 => ?_⟩
      rw [← hl, h0] at h1
      exact absurd h1 (Nat.lt_irrefl 1)
    · refine ⟨_, _, if_neg (fun hc => h0 hc.2), hi, hp, hb, hg, rfl, rfl, rfl, rfl, ?_, nofun⟩
      intro o' ho' _
      obtain rfl : o = o' := Option.some.inj (hlo.symm.trans ho')
      have hlo' : (filterAt t ⟨false, e.k⟩ toEmpty).lo =
          some { o with ents := o.ents.filter (fun x => x.k != e.k), cursor := o.cursor - 1 } := by
        unfold filterAt; rw [hlo]; rfl
      exact ⟨fun h1 => absurd (Nat.succ.inj (hl.trans h1)) h0, fun _ => ⟨_, hlo', ho ▸ hl, rfl⟩⟩

theorem eraseAt_spec {R : Nat} (hR : 0 < R) {t : Raw} (h : Inv R t) {k : Nat} {loc : Loc} {e : Entry}
    (hf : t.find k = some (loc, e)) (toEmpty : Bool) :
    ∃ t' cost, Raw.eraseAt t loc toEmpty = .ok (t', cost) ∧ Inv R t' ∧
      (e :: t'.ents).Perm t.ents ∧ t'.main.buckets = t.main.buckets ∧ t.main.gl ≤ t'.main.gl ∧
      cost.allocs = 0 ∧ cost.hashes = 0 ∧ cost.moved = 0 ∧ cost.frees = 0 ∧ cost.dropped = e.ids ∧
      (t'.lo.isSome = t.lo.isSome) :=
  have hs := filterAt_spec h hf toEmpty
  ⟨_, _, (filterAt_routes hf toEmpty).1, hs.1, filterAt_perm h hf toEmpty, hs.2.2.2.1, hs.2.2.2.2.1, rfl, rfl, rfl, rfl, rfl,
    hs.2.2.2.2.2⟩

theorem replaceAt_none_spec {R : Nat} {m : Map} (h : Inv R m) {k : Nat} {loc : Loc} {e : Entry}
    (hf : m.find k = some (loc, e)) (b : Bool) :
    ∃ m', Raw.replaceAt m loc none b = .ok (m', false) ∧ Inv R m' ∧ (e :: m'.ents).Perm m.ents ∧ m'.find k = none :=
  ⟨_, (filterAt_routes hf b).2.1, (filterAt_spec h hf b).1, filterAt_perm h hf b,
    (find_none_iff _ k).2 (filterAt_ents h hf b ▸ filter_key_not_mem k)⟩

/-- `replace_bucket_with` whose closure returned `Some(v)`: the in-place update -/
theorem replaceAt_some_eq {m : Map} {k : Nat} {loc : Loc} {e : Entry}
    (hf : m.find k = some (loc, e)) (v vid : Nat) (b : Bool) :
    Raw.replaceAt m loc (some (v, vid)) b = .ok (Map.setValAt m loc v vid, true) := by
  unfold Raw.replaceAt Map.setValAt HB.find?
  rcases find_inv hf with ⟨rfl, hm⟩ | ⟨rfl, -, o, ho, hm⟩
  · simp only [hm, if_true]
  · simp only [Bool.false_eq_true, if_false, ho, hm, Option.map]

end Griddle
