/-
  Lookups.  `find` is read off its definition once (`find_inv`, `find_snd`): what it returns is the first entry of
  that key in main-then-old order, and `loc` says which table that was — no invariant is involved.  The invariant
  enters only in the converse (`find_of_mem`: a stored element is the one `find` returns, because a key lives in at
  most one table).
-/
import GriddleModel.Lemmas.ListAux
namespace Griddle

/-- The abstract map a table state denotes. -/
def absOf (t : Raw) (k : Nat) : Option Entry := t.ents.find? (fun e => e.k == k)

theorem Raw.len_eq (t : Raw) : t.len = t.ents.length := by
  unfold Raw.len Raw.ents; cases t.lo <;> simp

theorem Raw.len_old (t : Raw) : t.len = t.main.ents.length + (oldEnts t).length := by
  unfold Raw.len oldEnts; cases t.lo <;> rfl

/-- I3 for split and unsplit tables alike -/
theorem Inv.head_old {R : Nat} {t : Raw} (h : Inv R t) :
    (oldEnts t).length + ceilDiv (oldEnts t).length R ≤ t.main.gl := by
  unfold oldEnts
  cases hlo : t.lo with
  | none => rw [List.length_nil, ceilDiv_zero]; exact Nat.zero_le _
  | some o => exact (h.head o hlo).1

theorem Inv.len_le_capacity {R : Nat} {t : Raw} (h : Inv R t) : t.len ≤ t.capacity := by
  have := h.head_old
  rw [Raw.len_old]; unfold Raw.capacity HB.capacity; omega

/-- I4 by table: each table has distinct keys, and no key is in both -/
theorem Inv.nodup_tables {R : Nat} {t : Raw} (h : Inv R t) :
    (keysOf t.main.ents).Nodup ∧ (keysOf (oldEnts t)).Nodup ∧
      ∀ k, k ∈ keysOf t.main.ents → k ∉ keysOf (oldEnts t) := by
  have := h.nodup
  rw [keysOf_ents, List.nodup_append] at this
  exact ⟨this.1, this.2.1, fun k h1 h2 => this.2.2 k h1 k h2 rfl⟩

theorem Inv.main_nodup {R : Nat} {t : Raw} (h : Inv R t) : (keysOf t.main.ents).Nodup := h.nodup_tables.1

theorem Inv.old_nodup {R : Nat} {t : Raw} (h : Inv R t) {o : Old} (ho : t.lo = some o) : (keysOf o.ents).Nodup :=
  oldEnts_of_some ho ▸ h.nodup_tables.2.1

theorem Inv.not_mem_oldEnts {R : Nat} {t : Raw} (h : Inv R t) {k : Nat} (hk : k ∈ keysOf t.main.ents) :
    k ∉ keysOf (oldEnts t) := h.nodup_tables.2.2 k hk

theorem Inv.disjoint {R : Nat} {t : Raw} (h : Inv R t) {o : Old} (ho : t.lo = some o) {k : Nat}
    (h1 : k ∈ keysOf t.main.ents) (h2 : k ∈ keysOf o.ents) : False :=
  h.not_mem_oldEnts h1 (oldEnts_of_some ho ▸ h2)

theorem find_inv {t : Raw} {k : Nat} {loc : Loc} {e : Entry} (hf : t.find k = some (loc, e)) :
    (loc = ⟨true, k⟩ ∧ t.main.ents.find? (fun x => x.k == k) = some e) ∨
    (loc = ⟨false, k⟩ ∧ t.main.ents.find? (fun x => x.k == k) = none ∧
      ∃ o, t.lo = some o ∧ o.ents.find? (fun x => x.k == k) = some e) := by
  unfold Raw.find HB.find? at hf
  split at hf
  · next hm => cases hf; exact .inl ⟨rfl, hm⟩
  · next hm =>
    split at hf
    · next o ho =>
      obtain ⟨x, hx, hxe⟩ := Option.map_eq_some_iff.1 hf
      cases hxe
      exact .inr ⟨rfl, hm, o, ho, hx⟩
    · cases hf

theorem find_snd (t : Raw) (k : Nat) : (t.find k).map (·.2) = absOf t k := by
  unfold Raw.find HB.find? absOf
  rw [Raw.ents, List.find?_append]
  cases t.main.ents.find? (fun e => e.k == k) with
  | some e => rfl
  | none => cases t.lo with
    | none => rfl
    | some o => dsimp only; cases o.ents.find? (fun e => e.k == k) <;> rfl

theorem absOf_none_iff (t : Raw) (k : Nat) : absOf t k = none ↔ k ∉ keysOf t.ents := find_key_none

theorem find_none_iff (t : Raw) (k : Nat) : t.find k = none ↔ k ∉ keysOf t.ents := by
  rw [← absOf_none_iff, ← find_snd, Option.map_eq_none_iff]

/-- the case analysis every statement about a located element starts from -/
theorem find_cases {t : Raw} {k : Nat} {loc : Loc} {e : Entry} (hf : t.find k = some (loc, e)) :
    k = e.k ∧ ((loc = ⟨true, e.k⟩ ∧ e ∈ t.main.ents) ∨ (loc = ⟨false, e.k⟩ ∧ ∃ o, t.lo = some o ∧ e ∈ o.ents)) := by
  rcases find_inv hf with ⟨rfl, hm⟩ | ⟨rfl, -, o, ho, hm⟩
  · obtain ⟨hin, rfl⟩ := find_key_some hm
    exact ⟨rfl, .inl ⟨rfl, hin⟩⟩
  · obtain ⟨hin, rfl⟩ := find_key_some hm
    exact ⟨rfl, .inr ⟨rfl, o, ho, hin⟩⟩

theorem find_loc {t : Raw} {k : Nat} {loc : Loc} {e : Entry}
    (hf : t.find k = some (loc, e)) : loc.k = k ∧ e.k = k ∧ e ∈ t.ents := by
  obtain ⟨rfl, ⟨rfl, hin⟩ | ⟨rfl, o, ho, hin⟩⟩ := find_cases hf
  · exact ⟨rfl, rfl, List.mem_append_left _ hin⟩
  · exact ⟨rfl, rfl, mem_ents_of_old (oldEnts_of_some ho ▸ hin)⟩

theorem find_old_split {t : Raw} {k : Nat} {loc : Loc} {e : Entry} (hf : t.find k = some (loc, e))
    (hl : loc.inMain = false) : t.lo.isSome = true := by
  rcases find_inv hf with ⟨rfl, -⟩ | ⟨-, -, o, ho, -⟩
  · cases hl
  · rw [ho]; rfl

theorem find_of_mem {R : Nat} {t : Raw} (h : Inv R t) {e : Entry} :
    (e ∈ t.main.ents → t.find e.k = some (⟨true, e.k⟩, e)) ∧
    (e ∈ oldEnts t → t.find e.k = some (⟨false, e.k⟩, e)) := by
  unfold Raw.find HB.find?
  refine ⟨fun hin => by rw [find_key_of_mem h.main_nodup hin], fun hin => ?_⟩
  rw [find_key_none.2 fun hk => h.not_mem_oldEnts hk (mem_keysOf hin)]
  unfold oldEnts at hin
  split at hin
  · next o ho => simp only [ho, find_key_of_mem (h.old_nodup ho) hin, Option.map]
  · cases hin

theorem find_some_iff {R : Nat} {t : Raw} (h : Inv R t) (k : Nat) (loc : Loc) (e : Entry) :
    t.find k = some (loc, e) ↔
      (e.k = k ∧ loc.k = k ∧
        ((loc.inMain = true ∧ e ∈ t.main.ents) ∨
         (loc.inMain = false ∧ ∃ o, t.lo = some o ∧ e ∈ o.ents))) := by
  constructor
  · intro hf
    obtain ⟨rfl, ⟨rfl, hin⟩ | ⟨rfl, hin⟩⟩ := find_cases hf
    · exact ⟨rfl, rfl, .inl ⟨rfl, hin⟩⟩
    · exact ⟨rfl, rfl, .inr ⟨rfl, hin⟩⟩
  · obtain ⟨inMain, lk⟩ := loc
    rintro ⟨rfl, rfl, ⟨rfl, hin⟩ | ⟨rfl, o, ho, hin⟩⟩
    · exact find_of_mem h |>.1 hin
    · exact find_of_mem h |>.2 (oldEnts_of_some ho ▸ hin)

theorem Raw.ents_release {t : Raw} (hnil : (oldEnts t).length = 0) : Raw.ents { t with lo := none } = t.ents := by
  rw [Raw.ents_eq_oldEnts t, List.eq_nil_of_length_eq_zero hnil]; rfl

/-- an old table emptied by removals may be released -/
theorem Inv.release {R : Nat} {t : Raw} (h : Inv R t) (hnil : (oldEnts t).length = 0) : Inv R { t with lo := none } :=
  ⟨h.wf, nofun, nofun, by rw [Raw.ents_release hnil]; exact h.nodup⟩

end Griddle
