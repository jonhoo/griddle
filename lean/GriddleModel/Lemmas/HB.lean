/-
  hashbrown's `RawTable` as the model has it (`Table.lean`): its counter invariant `HB.WF` and what each operation
  does to a well-formed table.  hashbrown is modelled, not verified: these are facts about the model's definitions.
-/
import GriddleModel.Table
import GriddleModel.Lemmas.Arith
import GriddleModel.Lemmas.Outcome
namespace Griddle

@[simp] theorem Cost.add_hashes (a b : Cost) : (a + b).hashes = a.hashes + b.hashes := rfl
@[simp] theorem Cost.add_allocs (a b : Cost) : (a + b).allocs = a.allocs + b.allocs := rfl
@[simp] theorem Cost.add_frees (a b : Cost) : (a + b).frees = a.frees + b.frees := rfl
@[simp] theorem Cost.add_moved (a b : Cost) : (a + b).moved = a.moved + b.moved := rfl
@[simp] theorem Cost.add_dropped (a b : Cost) : (a + b).dropped = a.dropped ++ b.dropped := rfl

/-- hashbrown's own counter invariant, as far as the model tracks it:
    `items + growth_left ≤ bucket_mask_to_capacity` (the rest are tombstones). -/
def HB.WF (t : HB) : Prop := t.ents.length + t.gl ≤ fullCap t.buckets

theorem HB.tryWithCapacity_spec (c : Cfg) (n : Nat) (nt : HB) (h : HB.tryWithCapacity c n = .ok nt) :
    nt.ents = [] ∧ nt.WF ∧ n ≤ nt.gl ∧ nt.gl = fullCap nt.buckets ∧ (n = 0 → nt = HB.new) ∧
      (0 < n → nt.allocated = true) := by
  unfold HB.tryWithCapacity at h
  split at h
  · next h0 => cases h; simp [HB.new, HB.WF, fullCap, h0]
  · next h0 =>
    split at h
    · cases h
    · next b hb =>
      split at h <;> cases h
      have h4 := capToBuckets_ge4 n b hb
      exact ⟨rfl, Nat.le_of_eq (Nat.zero_add _), fullCap_capToBuckets n b hb, rfl, fun h => absurd h h0,
        fun _ => by simp [HB.allocated]; omega⟩

/-- `try_with_capacity` for a request whose bucket count is known: only the allocation can fail -/
theorem HB.tryWithCapacity_of_buckets (c : Cfg) {n b : Nat} (hn : n ≠ 0) (hb : capToBuckets n = some b) :
    HB.tryWithCapacity c n = (match allocCheck c b with
      | some e => .error e
      | none => .ok { buckets := b, ents := [], gl := fullCap b }) := by
  rw [HB.tryWithCapacity, if_neg hn, hb]
  rfl

theorem HB.insertNoGrow_spec (t : HB) (e : Entry) (onTomb : Bool) (hwf : t.WF) (hroom : 0 < t.gl) :
    OkOr (t.insertNoGrow e onTomb) (fun t' =>
      t'.buckets = t.buckets ∧ t'.ents = e :: t.ents ∧ t'.WF ∧ t'.gl ≤ t.gl ∧ t.gl ≤ t'.gl + 1) := by
  unfold HB.insertNoGrow HB.WF at *
  cases onTomb
  · simp only [Bool.false_eq_true, if_false, Nat.ne_of_gt hroom, OkOr, List.length_cons]
    exact ⟨trivial, trivial, by omega, Nat.sub_le .., by omega⟩
  · simp only [if_true]
    split
    · simp only [OkOr, List.length_cons]
      exact ⟨trivial, trivial, by omega, Nat.le_refl _, Nat.le_succ _⟩
    · exact ⟨_, rfl⟩

/-- with room, the growable `insert` is `insert_no_grow`: hashbrown's `reserve_rehash` (and with it
    `rehash_in_place`) is not reached -/
theorem HB.insertGrowable_room (c : Cfg) (t : HB) (e : Entry) (b : Bool) (hroom : 0 < t.gl) :
    t.insertGrowable c e b = (t.insertNoGrow e b).map (fun t' => (t', {})) := by
  unfold HB.insertGrowable HB.insertNoGrow
  cases b <;> simp [Nat.ne_of_gt hroom, Except.map]

theorem HB.insertGrowable_spec (c : Cfg) (t : HB) (e : Entry) (b : Bool) (hwf : t.WF) (hroom : 0 < t.gl) :
    OkOr (t.insertGrowable c e b) (fun r =>
      r.2 = {} ∧ r.1.buckets = t.buckets ∧ r.1.ents = e :: t.ents ∧ r.1.WF ∧ r.1.gl ≤ t.gl ∧
      t.gl ≤ r.1.gl + 1) := by
  rw [HB.insertGrowable_room c t e b hroom]
  exact (HB.insertNoGrow_spec t e b hwf hroom).elim (fun _ => id) fun _ h => .ok ⟨rfl, h⟩

/-- `k` elements came in, each for at most one unit of `growth_left`: the capacity has not fallen -/
theorem HB.capacity_le {a b : HB} {k : Nat} (hlen : b.ents.length = a.ents.length + k) (hgl : a.gl ≤ b.gl + k) :
    a.capacity ≤ b.capacity := by
  unfold HB.capacity
  omega

/-- hashbrown's `clear` leaves an empty table in the same buckets and drops what was there; its early return on an
    empty table says the same, since nothing was there -/
theorem HB.clear_spec {t : HB} (hwf : t.WF) :
    t.clear.1.ents = [] ∧ t.clear.1.WF ∧ t.clear.1.buckets = t.buckets ∧ t.clear.2 = { dropped := idsOf t.ents } := by
  unfold HB.clear
  split
  · next h0 =>
    have hnil := List.eq_nil_of_length_eq_zero h0
    exact ⟨hnil, hwf, rfl, by rw [hnil]; rfl⟩
  · exact ⟨rfl, Nat.le_of_eq (Nat.zero_add _), rfl, rfl⟩

/-- hashbrown `shrink_to` on one table: contents kept, never more buckets, and either nothing
    happened or the new table's capacity covers `max(items, min_size)`. -/
theorem HB.shrinkTo_spec (c : Cfg) (t : HB) (minSize : Nat) (hwf : t.WF) :
    OkOrCap (t.shrinkTo c minSize) (fun r =>
      r.1.ents = t.ents ∧ r.1.WF ∧ (1 ≤ t.buckets → r.1.buckets ≤ t.buckets ∧ 1 ≤ r.1.buckets) ∧
      (r.1 = t ∨ max t.ents.length minSize ≤ r.1.capacity) ∧ r.2.dropped = [] ∧ r.2.allocs ≤ 1) := by
  unfold HB.shrinkTo
  dsimp only
  split
  · next hm =>
    have h0 : t.ents.length = 0 := Nat.eq_zero_of_le_zero (hm ▸ Nat.le_max_left ..)
    exact .ok ⟨(List.eq_nil_of_length_eq_zero h0).symm, Nat.le_refl 0, fun hb => ⟨hb, Nat.le_refl _⟩,
      .inr (Nat.le_trans (Nat.le_of_eq hm) (Nat.zero_le _)), rfl, Nat.zero_le _⟩
  · next hm =>
    split
    · exact .ok ⟨rfl, hwf, fun hb => ⟨Nat.le_refl _, hb⟩, .inl rfl, rfl, Nat.zero_le _⟩   -- the request fits no bucket count
    · next mb hcb =>
      split
      · next hlt =>
        have hbk : mb ≤ t.buckets ∧ 1 ≤ mb :=
          ⟨Nat.le_of_lt hlt, Nat.le_trans (by decide) (capToBuckets_ge4 _ _ hcb)⟩
        have hcap := fullCap_capToBuckets _ _ hcb
        -- the new table is empty with `fullCap mb` to spare, of which the old contents take their share
        have hfit : t.ents.length + (fullCap mb - t.ents.length) = fullCap mb :=
          Nat.add_sub_of_le (Nat.le_trans (Nat.le_max_left ..) hcap)
        rw [HB.tryWithCapacity_of_buckets c hm hcb]
        cases allocCheck c mb with
        | some e =>
          cases e
          · exact .overflow
          · exact .abort
        | none =>
          dsimp only
          split
          · next h0 =>
            exact .ok ⟨(List.eq_nil_of_length_eq_zero h0).symm, Nat.le_of_eq (Nat.zero_add _), fun _ => hbk,
              .inr (Nat.le_trans hcap (Nat.le_of_eq (Nat.zero_add _).symm)), rfl, Nat.le_refl _⟩
          · exact .ok ⟨rfl, Nat.le_of_eq hfit, fun _ => hbk, .inr (Nat.le_trans hcap (Nat.le_of_eq hfit.symm)), rfl,
              Nat.le_refl _⟩
      · exact .ok ⟨rfl, hwf, fun hb => ⟨Nat.le_refl _, hb⟩, .inl rfl, rfl, Nat.zero_le _⟩   -- nothing to save

/-- The unallocated singleton has capacity 0: it holds nothing and has no room. -/
theorem HB.WF.eq_new {t : HB} (hwf : t.WF) (ha : t.allocated = false) : t = HB.new := by
  obtain ⟨b, es, gl⟩ := t
  have hb : b = 1 := by simpa [HB.allocated] using ha
  subst hb
  simp only [HB.WF, fullCap_one] at hwf
  have hes : es = [] := List.eq_nil_of_length_eq_zero (by omega)
  have hgl : gl = 0 := by omega
  subst hes hgl
  rfl

/-- hashbrown's `clone` copies the table field by field, relabelling the entries; the singleton, which it does not
    copy, is `HB.new` either way. -/
theorem HB.cloneWith_eq {t : HB} (hwf : t.WF) (fresh : Entry → Entry) :
    ∃ mc : Cost, t.cloneWith fresh = ({ t with ents := t.ents.map fresh }, mc) ∧ mc.allocs ≤ 1 ∧ mc.dropped = [] := by
  unfold HB.cloneWith
  cases ha : t.allocated with
  | true => exact ⟨_, rfl, Nat.le_refl _, rfl⟩
  | false => rw [hwf.eq_new ha]; exact ⟨_, rfl, Nat.zero_le _, rfl⟩

end Griddle
