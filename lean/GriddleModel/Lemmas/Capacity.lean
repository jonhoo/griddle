/-
  Whole-table moves and sizing under the invariant: `carry_all`, `clear`, `try_reserve` / `reserve`, `shrink_to`.
-/
import GriddleModel.Lemmas.Insert
namespace Griddle

theorem carryAllLoop_spec (c : Cfg) : ∀ (ents : List Entry) (main : HB) (hits : Nat) (cost : Cost),
    main.WF → ents.length ≤ main.gl →
    OkOr (Raw.carryAllLoop c main ents.length ents hits cost) (fun r =>
      r.1.buckets = main.buckets ∧ r.1.WF ∧ r.1.gl ≤ main.gl ∧ main.gl ≤ r.1.gl + ents.length ∧
      r.1.ents.Perm (main.ents ++ ents) ∧
      r.2.2.moved = cost.moved + ents.length ∧ r.2.2.hashes = cost.hashes + ents.length ∧
      r.2.2.allocs = cost.allocs ∧ r.2.2.frees = cost.frees ∧ r.2.2.dropped = cost.dropped) := by
  intro ents
  induction ents with
  | nil =>
    intro main hits cost hwf _
    refine .ok ⟨rfl, hwf, Nat.le_refl _, Nat.le_add_right _ _, ?_, rfl, rfl, rfl, rfl, List.append_nil _⟩
    rw [List.append_nil]
  | cons e rest ih =>
    intro main hits cost hwf hroom
    rw [List.length_cons] at hroom ⊢
    unfold Raw.carryAllLoop
    refine (HB.insertGrowable_spec c main e _ hwf (Nat.lt_of_lt_of_le (Nat.succ_pos _) hroom)).elim (fun _ => id)
      fun r hr => ?_
    obtain ⟨⟨m', _⟩, rfl, hb, he, hwf', hg1, hg2⟩ := r, hr
    refine (ih m' (hits - 1) _ hwf' (Nat.le_of_succ_le_succ (Nat.le_trans hroom hg2))).mono fun r hr => ?_
    obtain ⟨h1, h2, h3, h4, h5, h6, h7, h8, h9, h10⟩ := hr
    -- the cost handed on is `cost` with one more move and one more hash
    refine ⟨h1.trans hb, h2, Nat.le_trans h3 hg1, Nat.le_trans hg2 (Nat.add_le_add_right h4 1),
      h5.trans (he ▸ List.perm_middle.symm), h6.trans (Nat.add_right_comm _ 1 _), h7.trans (Nat.add_right_comm _ 1 _),
      h8, h9, ?_⟩
    rw [h10, Cost.add_dropped, Cost.add_dropped, List.append_nil, List.append_nil]

/-- `carry_all` under the invariant: every parked element is moved into the main table, which is
    *not* reallocated (the headroom covers them all), and the old table is released. -/
theorem carryAll_spec (c : Cfg) (hR : 0 < c.R) (t : Raw) (hits : Nat) (h : Inv c.R t) :
    OkOr (Raw.carryAll c t hits) (fun r =>
      Inv c.R r.1 ∧ r.1.lo = none ∧ r.1.ents.Perm t.ents ∧ r.1.main.buckets = t.main.buckets ∧
      r.2.2.allocs = 0 ∧ r.2.2.dropped = [] ∧ r.2.2.hashes = r.2.2.moved ∧
      r.2.2.moved = (match t.lo with | some o => o.ents.length | none => 0) ∧
      t.main.capacity ≤ r.1.main.capacity) := by
  obtain ⟨main, lo⟩ := t
  unfold Raw.carryAll
  cases lo with
  | none => exact .ok ⟨h, rfl, .refl _, rfl, rfl, rfl, rfl, rfl, Nat.le_refl _⟩
  | some o =>
    have hnd := h.nodup
    have hhd : o.ents.length ≤ main.gl := Nat.le_trans (Nat.le_add_right _ _) (h.head o rfl).1
    rw [Raw.ents_some] at hnd
    dsimp only
    rw [h.agree o rfl]
    have hsp := carryAllLoop_spec c o.ents main hits {} h.wf hhd
    refine hsp.elim (fun _ => id) fun r hr => ?_
    obtain ⟨⟨m, _, cost⟩, h1, h2, -, h4, h5, h6, h7, h8, -, h10⟩ := r, hr
    dsimp only at h1 h2 h4 h5 h6 h7 h8 h10 ⊢
    -- releasing the old table adds one `free` to the loop's cost and nothing else
    refine .ok ⟨.of_unsplit h2 ((keysOf_perm h5).nodup_iff.2 hnd), rfl, ?_, h1, h8, (List.append_nil _).trans h10,
      h7.trans h6.symm, h6.trans (Nat.zero_add _), HB.capacity_le (h5.length_eq.trans List.length_append) h4⟩
    rw [Raw.ents_none, Raw.ents_some]
    exact h5

/-- `carry_all` leaves no old table, invariant or not -/
theorem Raw.carryAll_lo (c : Cfg) (t : Raw) (hits : Nat) : IfOk (Raw.carryAll c t hits) (·.1.lo = none) := by
  unfold Raw.carryAll
  split
  · rename_i hlo
    exact .ok hlo
  · split
    · exact .error
    · exact .ok rfl

theorem clear_spec {R : Nat} (t : Raw) (h : Inv R t) :
    Inv R (Raw.clear t).1 ∧ (Raw.clear t).1.ents = [] ∧ (Raw.clear t).1.lo = none ∧
    (Raw.clear t).1.main.buckets = t.main.buckets ∧
    (Raw.clear t).2.dropped.Perm (idsOf t.ents) ∧ (Raw.clear t).2.allocs = 0 := by
  obtain ⟨main, lo⟩ := t
  have hm := HB.clear_spec h.wf
  unfold Raw.clear
  generalize main.clear = r at hm ⊢
  obtain ⟨⟨m, mc⟩, he, hwf, hb, rfl⟩ := r, hm
  dsimp only at he hwf hb ⊢
  refine ⟨.of_unsplit hwf (he ▸ List.nodup_nil), (Raw.ents_none m).trans he, rfl, hb, ?_, ?_⟩
  · cases lo with
    | none => rw [Raw.ents_none]; exact .refl _
    | some o =>
      -- the old table's elements are dropped before the main table's
      rw [Raw.ents_some]
      unfold idsOf
      rw [List.flatMap_append]
      exact List.perm_append_comm
  · cases lo <;> rfl

/-- `try_reserve` with the number of parked elements named (`Raw.lean` computes it by a `match` on `t.lo`) -/
theorem Raw.tryReserve_eq (c : Cfg) (t : Raw) (n hits : Nat) (perm : List Nat) :
    Raw.tryReserve c t n hits perm =
      if USIZE ≤ (oldEnts t).length + n then .ok (t, some .overflow, {})
      else if (oldEnts t).length + n < t.main.gl then .ok (t, none, {})
      else if t.lo.isSome then
        match Raw.carryAll c t hits with
        | .error f => .error f
        | .ok (t1, _, c1) =>
          match Raw.tryGrow c t1 n perm with
          | .error f => .error f
          | .ok (t2, e, c2) => .ok (t2, e, c1 + c2)
      else Raw.tryGrow c t n perm := by
  unfold Raw.tryReserve oldEnts; cases t.lo <;> rfl

theorem tryReserve_spec (c : Cfg) (hR : 0 < c.R) (t : Raw) (n hits : Nat) (perm : List Nat) (h : Inv c.R t) :
    OkOr (Raw.tryReserve c t n hits perm) (fun r =>
      Inv c.R r.1 ∧ r.1.ents.Perm t.ents ∧ r.2.2.allocs ≤ 1 ∧ r.2.2.dropped = [] ∧
      (r.2.1 = none → r.1.len + n ≤ r.1.capacity)) := by
  rw [Raw.tryReserve_eq]
  refine .ite (fun _ => .ok ⟨h, .refl _, Nat.zero_le _, rfl, nofun⟩) fun _ => ?_
  -- the fast path: the spare room already covers the request and the parked elements
  refine .ite (fun hfast => .ok ⟨h, .refl _, Nat.zero_le _, rfl, fun _ => ?_⟩) fun _ => ?_
  · show t.len + n ≤ t.main.capacity
    rw [Raw.len_old, HB.capacity]
    omega
  refine .ite (fun _ => ?_) fun hlo => ?_
  · refine (carryAll_spec c hR t hits h).elim (fun _ => id) fun r1 hr1 => ?_
    obtain ⟨⟨t1, _, c1⟩, a1, a2, a3, -, a5, a6, -⟩ := r1, hr1
    dsimp only at a1 a2 a3 a5 a6 ⊢
    refine (tryGrow_inv c hR t1 n perm a1 a2).elim (fun _ => id) fun r2 hr2 => ?_
    obtain ⟨⟨t2, e, c2⟩, g1, g2, -, -, g5, g6, g7, -⟩ := r2, hr2
    exact .ok ⟨g1, g2.trans a3, by rw [Cost.add_allocs, a5, Nat.zero_add]; exact g6,
      by rw [Cost.add_dropped, a6, g5]; rfl, g7⟩
  · refine (tryGrow_inv c hR t n perm h (Option.not_isSome_iff_eq_none.1 hlo)).mono fun _ hr => ?_
    obtain ⟨g1, g2, -, -, g5, g6, g7, -⟩ := hr
    exact ⟨g1, g2, g6, g5, g7⟩

/-- `reserve` is `try_reserve` with the allocation error made fatal, as `grow` is `try_grow` -/
theorem Raw.reserve_eq_fatal (c : Cfg) (t : Raw) (n hits : Nat) (perm : List Nat) :
    Raw.reserve c t n hits perm = fatal (Raw.tryReserve c t n hits perm) := by
  unfold Raw.reserve Raw.tryReserve
  dsimp only
  rw [apply_ite fatal, apply_ite fatal, apply_ite fatal]
  refine if_congr Iff.rfl rfl (if_congr Iff.rfl rfl (if_congr Iff.rfl ?_ rfl))
  cases Raw.carryAll c t hits with
  | error f => rfl
  | ok r =>
    obtain ⟨t1, _, c1⟩ := r
    dsimp only
    rw [Raw.grow_eq_fatal]
    cases Raw.tryGrow c t1 n perm with
    | error f => rfl
    | ok r2 => obtain ⟨t2, _ | _ | _, c2⟩ := r2 <;> rfl

/-- `reserve`: a pending resize is folded in (`carry_all`) *before* the new table is allocated, so there are never
    three tables. -/
theorem reserve_spec (c : Cfg) (hR : 0 < c.R) (t : Raw) (n hits : Nat) (perm : List Nat) (h : Inv c.R t) :
    OkOrCap (Raw.reserve c t n hits perm) (fun r =>
      Inv c.R r.1 ∧ r.1.ents.Perm t.ents ∧ r.1.len + n ≤ r.1.capacity ∧ r.2.allocs ≤ 1 ∧ r.2.dropped = []) := by
  rw [Raw.reserve_eq_fatal]
  exact (tryReserve_spec c hR t n hits perm h).fatal.mono fun _ ⟨g1, g2, g3, g4, g5⟩ => ⟨g1, g2, g5 rfl, g3, g4⟩

/-- what `HB.shrinkTo_spec` says of the main table, asked for the parked elements' headroom on top of its own
    contents, gives `shrink_to`'s contract for the whole map; `lo` is what stays parked -/
theorem shrinkTo_post {R : Nat} {main : HB} {lo : Option Old} (h : Inv R ⟨main, lo⟩)
    (hpos : ∀ o, lo = some o → 0 < o.ents.length)
    {minSize : Nat} {c0 : Cost} (hd : c0.dropped = []) (ha : c0.allocs = 0) {r : HB × Cost}
    (hs : r.1.ents = main.ents ∧ r.1.WF ∧ (1 ≤ main.buckets → r.1.buckets ≤ main.buckets ∧ 1 ≤ r.1.buckets) ∧
      (r.1 = main ∨ max main.ents.length (max (main.ents.length +
        (match (generalizing := false) lo with | some o => o.ents.length + ceilDiv o.ents.length R | none => 0)) minSize)
        ≤ r.1.capacity) ∧
      r.2.dropped = [] ∧ r.2.allocs ≤ 1) :
    Inv R ⟨r.1, lo⟩ ∧ (Raw.ents ⟨r.1, lo⟩).Perm (Raw.ents ⟨main, lo⟩) ∧
      (1 ≤ main.buckets → r.1.buckets ≤ main.buckets ∧ 1 ≤ r.1.buckets) ∧
      max (Raw.len ⟨r.1, lo⟩) (min minSize main.capacity) ≤ r.1.capacity ∧
      (c0 + r.2).dropped = [] ∧ (c0 + r.2).allocs ≤ 1 := by
  obtain ⟨⟨m, mc⟩, s1, s2, s3, s5, s6, s7⟩ := r, hs
  dsimp only at s1 s2 s3 s5 s6 s7 ⊢
  have hcost : (c0 + mc).dropped = [] ∧ (c0 + mc).allocs ≤ 1 :=
    ⟨by rw [Cost.add_dropped, hd, s6]; rfl, by rw [Cost.add_allocs, ha, Nat.zero_add]; exact s7⟩
  rcases s5 with rfl | hge
  · exact ⟨h, .refl _, s3, Nat.max_le.2 ⟨h.len_le_capacity, Nat.min_le_right _ _⟩, hcost⟩
  · -- the new table holds `main`'s contents in a capacity that covers what was asked
    obtain ⟨hneed, hmin⟩ := Nat.max_le.1 (Nat.max_le.1 hge).2
    rw [HB.capacity, s1] at hneed
    have hents : Raw.ents ⟨m, lo⟩ = Raw.ents ⟨main, lo⟩ := by simp only [Raw.ents, s1]
    refine ⟨⟨s2, h.agree, fun o ho => ?_, hents ▸ h.nodup⟩, hents ▸ .refl _, s3,
      Nat.max_le.2 ⟨?_, Nat.le_trans (Nat.min_le_left _ _) hmin⟩, hcost⟩
    · cases ho
      have hhead := Nat.le_of_add_le_add_left hneed
      exact ⟨hhead, Nat.le_trans (hpos o rfl) (Nat.le_trans (Nat.le_add_right _ _) hhead)⟩
    · rw [Raw.len, HB.capacity, s1]
      refine Nat.le_trans (Nat.add_le_add_left ?_ _) hneed
      cases lo with
      | none => exact Nat.le_refl 0
      | some o => exact Nat.le_add_right _ _

/-- what `shrink_to` leaves parked — an old table emptied in place is released first — and what releasing it costs -/
def Raw.kept (t : Raw) : Option Old × Cost :=
  match t.lo with
  | some o => if o.ents.length = 0 then (none, o.freeCost) else (some o, {})
  | none => (none, {})

/-- While `2·len() + 1` fits a `usize`, so does the sum `shrink_to` computes with unchecked additions: the overflow
    check of a debug build passes and a release build does not wrap.  The right-hand side does not read the profile. -/
theorem Raw.shrinkTo_of_small (c : Cfg) (hR : 0 < c.R) (t : Raw) (n : Nat) (hsmall : t.len + t.len + 1 < USIZE) :
    Raw.shrinkTo c t n =
      match t.main.shrinkTo c (max (t.main.ents.length +
          (match t.kept.1 with | some o => o.ents.length + ceilDiv o.ents.length c.R | none => 0)) n) with
      | .error f => .error f
      | .ok (m, mc) => .ok ({ main := m, lo := t.kept.1 }, t.kept.2 + mc) := by
  have fits : ∀ need, need < USIZE → (c.debug && decide (USIZE ≤ need)) = false ∧ need % USIZE = need :=
    fun need hlt => ⟨by simp [Nat.not_le.2 hlt], Nat.mod_eq_of_lt hlt⟩
  obtain ⟨main, lo⟩ := t
  unfold Raw.shrinkTo Raw.kept
  unfold Raw.len at hsmall
  rcases lo with _ | o
  · obtain ⟨f1, f2⟩ := fits (main.ents.length + 0) (by dsimp only at hsmall; omega)
    simp only [f1, f2, Bool.false_eq_true, if_false]
    rfl
  · dsimp only at hsmall ⊢
    by_cases h0 : o.ents.length = 0
    · obtain ⟨f1, f2⟩ := fits (main.ents.length + 0) (by omega)
      simp only [h0, if_true, f1, f2, Bool.false_eq_true, if_false]
      rfl
    · have := ceilDiv_le_self o.ents.length c.R hR
      obtain ⟨f1, f2⟩ := fits (main.ents.length + (o.ents.length + ceilDiv o.ents.length c.R)) (by omega)
      simp only [h0, if_false, f1, f2, Bool.false_eq_true]
      rfl

/-- releasing an old table that holds nothing keeps the invariant; what stays parked is not empty -/
theorem Inv.kept {R : Nat} {t : Raw} (h : Inv R t) :
    Inv R ⟨t.main, t.kept.1⟩ ∧ (∀ o, t.kept.1 = some o → 0 < o.ents.length) ∧ t.kept.2.dropped = [] ∧
      t.kept.2.allocs = 0 ∧ Raw.ents ⟨t.main, t.kept.1⟩ = t.ents := by
  obtain ⟨main, lo⟩ := t
  unfold Raw.kept
  rcases lo with _ | o
  · exact ⟨h, nofun, rfl, rfl, rfl⟩
  · dsimp only
    split
    · next h0 =>
      exact ⟨h.release h0, nofun, rfl, rfl, Raw.ents_release (t := ⟨main, some o⟩) h0⟩
    · next h0 => exact ⟨h, by rintro _ ⟨rfl⟩; exact Nat.pos_of_ne_zero h0, rfl, rfl, rfl⟩

/-- `shrink_to`: the table it installs keeps room for every parked element and the insertions needed to move them —
    this is where the repaired "old table already emptied in place" case matters. -/
theorem shrinkTo_spec (c : Cfg) (hR : 0 < c.R) (t : Raw) (minSize : Nat) (h : Inv c.R t)
    (hsmall : t.len + t.len + 1 < USIZE) :
    OkOrCap (Raw.shrinkTo c t minSize) (fun r =>
      Inv c.R r.1 ∧ r.1.ents.Perm t.ents ∧ (1 ≤ t.main.buckets → r.1.main.buckets ≤ t.main.buckets ∧ 1 ≤ r.1.main.buckets) ∧
      max r.1.len (min minSize t.capacity) ≤ r.1.capacity ∧ r.2.dropped = [] ∧ r.2.allocs ≤ 1) := by
  rw [Raw.shrinkTo_of_small c hR t minSize hsmall]
  obtain ⟨hi, hpos, hd, ha, he⟩ := h.kept
  refine (HB.shrinkTo_spec c t.main _ h.wf).elim (fun _ => id) fun r hs => .ok ?_
  have := shrinkTo_post hi hpos hd ha hs
  rwa [he] at this

end Griddle
