/-
  What a call of the model may end with: `OkOr`, `OkOrCap` (both exclude `ub` and every undocumented panic) and `IfOk`,
  each with the few lemmas through which the proofs use it.  A call that no oracle value can make fail is specified as
  `∃ r, f … = .ok r ∧ …` instead (`removeAt_spec`, `Map.removeEntry_spec`, the loops of `retain` / `drain_filter`).
-/
import GriddleModel.Basic
namespace Griddle

/-- `ok` with a property, or an oracle rejection. -/
def OkOr {α : Type} (r : Except Fault α) (P : α → Prop) : Prop :=
  match r with
  | .ok a => P a
  | .error f => ∃ w, f = .oracle w

theorem OkOr.ok_iff {α : Type} (a : α) (P : α → Prop) : OkOr (.ok a : Except Fault α) P ↔ P a := Iff.rfl

theorem OkOr.ok {α : Type} {P : α → Prop} {a : α} (h : P a) : OkOr (.ok a : Except Fault α) P := h

/-- How a specification is used inside a definition that matches on the call's result: `motive` is found by
    abstracting the call from the goal, so `refine (spec …).elim (fun _ => id) fun r hr => ?_` leaves the goal
    about `.ok r`, with `hr` what the specification says of `r` (`obtain ⟨⟨a, b⟩, h₁, h₂⟩ := r, hr` is cheaper to
    check than a pattern-matching `fun`).  The error case is `fun _ => id` whenever the definition passes errors
    on unchanged.  The call must occur literally: `dsimp only` first if it sits under an unreduced matcher. -/
@[elab_as_elim]
theorem OkOr.elim {α : Type} {P : α → Prop} {motive : Except Fault α → Prop} {r : Except Fault α}
    (h : OkOr r P) (error : ∀ f, (∃ w, f = .oracle w) → motive (.error f))
    (ok : ∀ a, P a → motive (.ok a)) : motive r := by
  cases r with
  | ok a => exact ok a h
  | error f => exact error f h

theorem OkOr.mono {α : Type} {r : Except Fault α} {P Q : α → Prop} (h : OkOr r P)
    (hpq : ∀ a, P a → Q a) : OkOr r Q := h.elim (fun _ => id) hpq

/-- a specification of a definition that branches is proved branch by branch, each with its condition in hand -/
theorem OkOr.ite {α : Type} {P : α → Prop} {p : Prop} [Decidable p] {x y : Except Fault α}
    (hx : p → OkOr x P) (hy : ¬ p → OkOr y P) : OkOr (if p then x else y) P := by
  split
  · exact hx ‹_›
  · exact hy ‹_›

/-- errors an *inserting / reserving* call may end with: an oracle rejection, or the documented
    capacity-overflow panic / allocation-failure abort when the request is too large. -/
def OkOrCap {α : Type} (r : Except Fault α) (P : α → Prop) : Prop :=
  match r with
  | .ok a => P a
  | .error f => (∃ w, f = .oracle w) ∨ f = .panic .capacityOverflow ∨ f = .abort

theorem OkOrCap.ok {α : Type} {P : α → Prop} {a : α} (h : P a) : OkOrCap (.ok a : Except Fault α) P := h

theorem OkOrCap.overflow {α : Type} {P : α → Prop} :
    OkOrCap (.error (.panic .capacityOverflow) : Except Fault α) P := .inr (.inl rfl)

theorem OkOrCap.abort {α : Type} {P : α → Prop} : OkOrCap (.error .abort : Except Fault α) P :=
  .inr (.inr rfl)

@[elab_as_elim]
theorem OkOrCap.elim {α : Type} {P : α → Prop} {motive : Except Fault α → Prop} {r : Except Fault α}
    (h : OkOrCap r P)
    (error : ∀ f, ((∃ w, f = .oracle w) ∨ f = .panic .capacityOverflow ∨ f = .abort) → motive (.error f))
    (ok : ∀ a, P a → motive (.ok a)) : motive r := by
  cases r with
  | ok a => exact ok a h
  | error f => exact error f h

theorem OkOrCap.mono {α : Type} {r : Except Fault α} {P Q : α → Prop} (h : OkOrCap r P)
    (hpq : ∀ a, P a → Q a) : OkOrCap r Q := h.elim (fun _ => id) hpq

theorem OkOr.toCap {α : Type} {r : Except Fault α} {P : α → Prop} (h : OkOr r P) : OkOrCap r P :=
  h.elim (fun _ => Or.inl) fun _ => id

theorem OkOrCap.not_ub {α : Type} {r : Except Fault α} {P : α → Prop} (h : OkOrCap r P) (w : String) :
    r ≠ .error (.ub w) := by
  rintro rfl
  obtain ⟨_, h⟩ | h | h := h <;> cases h

theorem OkOrCap.panic_documented {α : Type} {r : Except Fault α} {P : α → Prop} (h : OkOrCap r P)
    (k : PanicKind) (heq : r = .error (.panic k)) : k = .capacityOverflow := by
  subst heq
  obtain ⟨_, h⟩ | h | h := h <;> cases h
  rfl

/-- `P` holds of the result of `r`, if it has one (nothing is said about faults). -/
def IfOk {ε α : Type} (r : Except ε α) (P : α → Prop) : Prop := ∀ a, r = .ok a → P a

theorem IfOk.apply {ε α : Type} {P : α → Prop} {r : Except ε α} {a : α} (h : IfOk r P) (e : r = .ok a) : P a := h a e

theorem IfOk.ok {ε α : Type} {P : α → Prop} {a : α} (h : P a) : IfOk (.ok a : Except ε α) P :=
  fun _ e => by cases e; exact h

theorem IfOk.error {ε α : Type} {P : α → Prop} {e : ε} : IfOk (.error e : Except ε α) P :=
  fun _ h => nomatch h

theorem IfOk.ite {ε α : Type} {P : α → Prop} {p : Prop} [Decidable p] {x y : Except ε α}
    (hx : IfOk x P) (hy : IfOk y P) : IfOk (if p then x else y) P := by
  split
  · exact hx
  · exact hy

@[elab_as_elim]
theorem IfOk.elim {ε α : Type} {P : α → Prop} {motive : Except ε α → Prop} {r : Except ε α}
    (h : IfOk r P) (error : ∀ e, motive (.error e)) (ok : ∀ a, P a → motive (.ok a)) : motive r := by
  cases r with
  | ok a => exact ok a (h a rfl)
  | error e => exact error e

theorem OkOrCap.and {α : Type} {P Q : α → Prop} {r : Except Fault α} (h : OkOrCap r P) (h' : IfOk r Q) :
    OkOrCap r (fun a => P a ∧ Q a) := by
  cases r with
  | ok a => exact ⟨h, h' a rfl⟩
  | error e => exact h

end Griddle
