/-
  `clone` / `clone_from`: once the main table is copied, both insert the parked elements into the copy one by one;
  it has room for all of them (`cloneTail_spec`).
-/
import GriddleModel.Lemmas.MapOps
namespace Griddle

theorem andCarryLoop_spec (c : Cfg) (fresh : Entry → Entry) : ∀ (ents : List Entry) (m : HB) (hits : Nat) (cost : Cost),
    m.WF → ents.length ≤ m.gl →
    OkOr (Raw.andCarryLoop c fresh m ents hits cost) (fun r =>
      r.1.buckets = m.buckets ∧ r.1.WF ∧ r.1.gl ≤ m.gl ∧ m.gl ≤ r.1.gl + ents.length ∧
      r.1.ents.Perm (m.ents ++ ents.map fresh) ∧
      r.2.2.hashes = cost.hashes + ents.length ∧ r.2.2.allocs = cost.allocs ∧ r.2.2.moved = cost.moved ∧
      r.2.2.frees = cost.frees ∧ r.2.2.dropped = cost.dropped) := by
  intro ents
  induction ents with
  | nil =>
    intro m hits cost hwf _
    refine .ok ⟨rfl, hwf, Nat.le_refl _, Nat.le_add_right _ _, ?_, rfl, rfl, rfl, rfl, rfl⟩
    rw [List.map_nil, List.append_nil]
  | cons e rest ih =>
    intro m hits cost hwf hroom
    rw [List.length_cons] at hroom ⊢
    unfold Raw.andCarryLoop
    refine (HB.insertGrowable_spec c m (fresh e) _ hwf (Nat.lt_of_lt_of_le (Nat.succ_pos _) hroom)).elim (fun _ => id)
      fun r hr => ?_
    obtain ⟨⟨m', _⟩, rfl, hb, he, hwf', hg1, hg2⟩ := r, hr
    refine (ih m' (hits - 1) _ hwf' (Nat.le_of_succ_le_succ (Nat.le_trans hroom hg2))).mono fun r hr => ?_
    obtain ⟨h1, h2, h3, h4, h5, h6, h7, h8, h9, h10⟩ := hr
    -- the cost handed on is `cost` with one more hash
    refine ⟨h1.trans hb, h2, Nat.le_trans h3 hg1, Nat.le_trans hg2 (Nat.add_le_add_right h4 1),
      h5.trans (he ▸ List.perm_middle.symm), h6.trans (Nat.add_right_comm _ 1 _), h7, h8, h9, ?_⟩
    rw [h10, Cost.add_dropped, Cost.add_dropped, List.append_nil, List.append_nil]

/-- What `clone` and `clone_from` share once the main table is copied (at cost `base`): the parked elements, as many
    as the cursor says, are inserted into the copy one by one — it has room for all of them, so it is not reallocated.
    The `match` in the statement is the text both definitions end with: it has to be edited with them. -/
theorem cloneTail_spec (c : Cfg) (t : Raw) (fresh : Entry → Entry) (hits : Nat) (h : Inv c.R t)
    (hk : ∀ e, (fresh e).k = e.k) (base : Cost) :
    OkOr (match t.lo with
          | none => .ok (({ main := { t.main with ents := t.main.ents.map fresh }, lo := none } : Raw), base)
          | some o =>
            if o.ents.length < o.cursor then
              .error (.ub "cached iterator advanced past the last element of the old table")
            else match Raw.andCarryLoop c fresh { t.main with ents := t.main.ents.map fresh }
                (o.ents.take o.cursor) hits {} with
              | .error f => .error f
              | .ok (m', _, cc) => .ok ({ main := m', lo := none }, base + cc))
      (fun r => Inv c.R r.1 ∧ r.1.lo = none ∧ r.1.ents.Perm (t.ents.map fresh) ∧
        r.1.main.buckets = t.main.buckets ∧ r.2.allocs = base.allocs ∧ r.2.dropped = base.dropped) := by
  have hi := h.map_main fresh hk
  cases hlo : t.lo with
  | none =>
    rw [hlo] at hi
    exact .ok ⟨hi, rfl, by simp [Raw.ents, hlo], rfl, rfl, rfl⟩
  | some o =>
    have hhd : o.ents.length ≤ t.main.gl := Nat.le_trans (Nat.le_add_right _ _) (h.head o hlo).1
    dsimp only
    rw [h.agree o hlo, if_neg (Nat.lt_irrefl _), List.take_length]
    refine (andCarryLoop_spec c fresh o.ents _ hits {} hi.wf hhd).elim (fun _ => id) fun r hr => ?_
    obtain ⟨⟨m', _, cc⟩, hb, hwf', -, -, hp, -, ha, -, -, hd⟩ := r, hr
    dsimp only at hb hwf' hp ha hd ⊢
    have hperm : m'.ents.Perm (t.ents.map fresh) := by rwa [Raw.ents, hlo, List.map_append]
    have hnd : (keysOf m'.ents).Nodup :=
      (keysOf_perm hperm).nodup_iff.2 (by rw [keysOf_map_same fresh hk]; exact h.nodup)
    refine .ok ⟨Inv.of_unsplit hwf' hnd, rfl, by rwa [Raw.ents_none], hb, ?_, ?_⟩
    · rw [Cost.add_allocs, ha]; rfl
    · rw [Cost.add_dropped, hd]; exact List.append_nil _

theorem cloneWith_spec (c : Cfg) (hR : 0 < c.R) (t : Raw) (fresh : Entry → Entry) (hits : Nat)
    (h : Inv c.R t) (hk : ∀ e, (fresh e).k = e.k) :
    OkOr (Raw.cloneWith c t fresh hits) (fun r =>
      Inv c.R r.1 ∧ r.1.lo = none ∧ r.1.ents.Perm (t.ents.map fresh) ∧ r.2.allocs ≤ 1 ∧ r.2.dropped = [] ∧
      r.1.main.buckets = (if t.main.allocated then t.main.buckets else 1)) := by
  unfold Raw.cloneWith
  obtain ⟨mc, hmc, hma, hmd⟩ := HB.cloneWith_eq h.wf fresh
  rw [hmc]
  refine (cloneTail_spec c t fresh hits h hk mc).mono fun r ⟨hi, hl, hp, hb, ha, hd⟩ =>
    ⟨hi, hl, hp, ha ▸ hma, hd.trans hmd, hb.trans ?_⟩
  cases ha : t.main.allocated with
  | true => rfl
  | false => rw [h.wf.eq_new ha]; rfl

theorem cloneFrom_spec (c : Cfg) (hR : 0 < c.R) (dst src : Raw) (fresh : Entry → Entry) (hits : Nat)
    (h : Inv c.R src) (hk : ∀ e, (fresh e).k = e.k) :
    OkOr (Raw.cloneFrom c dst src fresh hits) (fun r =>
      Inv c.R r.1 ∧ r.1.lo = none ∧ r.1.ents.Perm (src.ents.map fresh) ∧
      r.2.dropped.Perm (idsOf dst.ents) ∧ r.2.allocs ≤ 1) := by
  unfold Raw.cloneFrom
  dsimp only
  -- hashbrown's `clone_from` on the main table: each of its three branches installs the relabelled copy of
  -- `src.main` and drops what `dst.main` held; they differ in what they allocate and free
  generalize hmc : (if !src.main.allocated then _ else _ : HB × Cost) = mc
  have hmain : mc.1 = { src.main with ents := src.main.ents.map fresh } ∧
      mc.2.dropped = idsOf dst.main.ents ∧ mc.2.allocs ≤ 1 := by
    subst hmc
    cases ha : src.main.allocated with
    | false => rw [h.wf.eq_new ha]; exact ⟨rfl, List.append_nil _, Nat.zero_le _⟩
    | true =>
      simp only [Bool.not_true, Bool.false_eq_true, if_false]
      split
      · exact ⟨rfl, rfl, Nat.zero_le _⟩
      · exact ⟨rfl, List.append_nil _, Nat.le_refl _⟩
  obtain ⟨m, c1⟩ := mc
  dsimp only at hmain ⊢
  obtain ⟨rfl, hd1, ha1⟩ := hmain
  refine (cloneTail_spec c src fresh hits h hk _).mono fun r ⟨hi, hl, hp, _, ha, hd⟩ => ⟨hi, hl, hp, ?_⟩
  -- what is dropped: the old table's contents, then the main table's
  rw [hd, ha, Raw.ents]
  cases dst.lo with
  | none => exact ⟨by simp [hd1], by simpa using ha1⟩
  | some o =>
    refine ⟨?_, by simpa [Old.dropCost] using ha1⟩
    simp only [Old.dropCost, Cost.add_dropped, hd1, idsOf_append]
    exact List.perm_append_comm

end Griddle
