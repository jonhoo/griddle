/-
  Arithmetic facts about hashbrown's sizing functions and griddle's `⌈L/R⌉` bookkeeping.
-/
import GriddleModel.Basic
namespace Griddle

theorem ceilDiv_le_iff {L R n : Nat} (hR : 0 < R) : ceilDiv L R ≤ n ↔ L ≤ n * R := by
  unfold ceilDiv
  rw [Nat.div_le_iff_le_mul_add_pred hR, Nat.mul_comm]
  omega

theorem ceilDiv_zero (R : Nat) : ceilDiv 0 R = 0 := by
  rcases Nat.eq_zero_or_pos R with rfl | hR
  · rfl
  · exact Nat.le_zero.1 ((ceilDiv_le_iff hR).2 (Nat.zero_le _))

theorem ceilDiv_pos (L R : Nat) (hR : 0 < R) (h : 0 < L) : 0 < ceilDiv L R := by
  unfold ceilDiv; apply Nat.div_pos <;> omega

theorem ceilDiv_mono (a b R : Nat) (h : a ≤ b) : ceilDiv a R ≤ ceilDiv b R := by
  unfold ceilDiv; exact Nat.div_le_div_right (by omega)

theorem ceilDiv_add_self (L R : Nat) (hR : 0 < R) : ceilDiv (L + R) R = ceilDiv L R + 1 := by
  unfold ceilDiv
  rw [Nat.sub_add_comm (Nat.le_add_left_of_le hR), Nat.add_div_right _ hR]

/-- the headroom invariant, one unit short, still covers the next batch: what `carry` needs after the insertion
    that precedes it -/
theorem min_le_of_headroom {L R gl : Nat} (hR : 0 < R) (h : L + ceilDiv L R ≤ gl + 1) : min R L ≤ gl := by
  rcases Nat.eq_zero_or_pos L with rfl | hpos
  · simp
  · have := ceilDiv_pos L R hR hpos
    omega

/-- … and when `k` of the `L` parked elements have been moved, each for at most one unit, and `lost` more have left
    unpaid, it holds again for the `L'` that stay: after a full batch of `R` moves, or after any number if something was lost -/
theorem headroom_after_moves {L L' R gl gl' k lost : Nat} (hR : 0 < R) (h : L + ceilDiv L R ≤ gl + 1)
    (hpaid : gl ≤ gl' + k) (hsum : L' + k + lost = L) (hfull : lost = 0 → k = R ∧ 0 < L') :
    L' + ceilDiv L' R ≤ gl' ∧ 1 ≤ gl' := by
  subst hsum
  rcases Nat.eq_zero_or_pos lost with rfl | hlost
  · obtain ⟨rfl, hpos⟩ := hfull rfl
    rw [Nat.add_zero, ceilDiv_add_self L' k hR] at h
    have := ceilDiv_pos L' k hR hpos
    omega
  · have := ceilDiv_mono L' _ R (Nat.le_trans (Nat.le_add_right L' k) (Nat.le_add_right _ lost))
    have := ceilDiv_pos _ R hR (Nat.lt_of_lt_of_le hlost (Nat.le_add_left lost (L' + k)))
    omega

/-- I3 survives when parked elements leave and `growth_left` does not shrink -/
theorem headroom_mono {L L' R gl gl' : Nat} (hL : L' ≤ L) (hgl : gl ≤ gl') (h : L + ceilDiv L R ≤ gl ∧ 1 ≤ gl) :
    L' + ceilDiv L' R ≤ gl' ∧ 1 ≤ gl' :=
  ⟨Nat.le_trans (Nat.add_le_add hL (ceilDiv_mono L' L R hL)) (Nat.le_trans h.1 hgl), Nat.le_trans h.2 hgl⟩

/-- the room `try_grow` asks of the new table covers the `L` parked elements with the insertions that move them, and
    `extra` elements more -/
theorem grow_request_le {L R extra gl : Nat} (h : L + ceilDiv L R + max extra (ceilDiv L R) ≤ gl) :
    L + ceilDiv L R ≤ gl ∧ L + extra ≤ gl :=
  ⟨Nat.le_trans (Nat.le_add_right _ _) h,
    Nat.le_trans (Nat.add_le_add (Nat.le_add_right L _) (Nat.le_max_left extra _)) h⟩

theorem ceilDiv_le_self (L R : Nat) (hR : 0 < R) : ceilDiv L R ≤ L :=
  (ceilDiv_le_iff hR).2 (Nat.le_mul_of_pos_right L hR)

theorem ceilDiv_le_of_le_mul (L R n : Nat) (hR : 0 < R) (h : L ≤ n * R) : ceilDiv L R ≤ n := (ceilDiv_le_iff hR).2 h

theorem le_ceilDiv_mul (L R : Nat) (hR : 0 < R) : L ≤ ceilDiv L R * R := (ceilDiv_le_iff hR).1 (Nat.le_refl _)

theorem nextPow2Go_ge (n : Nat) : ∀ fuel p, n ≤ p * 2 ^ fuel → n ≤ nextPow2Go n fuel p := by
  intro fuel p
  fun_induction nextPow2Go n fuel p with
  | case1 p => exact fun h => Nat.mul_one p ▸ h
  | case2 fuel p hle => exact fun _ => hle
  | case3 fuel p _ ih =>
    intro h
    rw [Nat.pow_succ', ← Nat.mul_assoc, Nat.mul_comm p 2] at h
    exact ih h

theorem nextPow2Go_pow (n : Nat) : ∀ fuel p, (∃ e, p = 2 ^ e) → ∃ e, nextPow2Go n fuel p = 2 ^ e := by
  intro fuel p
  fun_induction nextPow2Go n fuel p with
  | case1 p => exact id
  | case2 fuel p _ => exact id
  | case3 fuel p _ ih => exact fun ⟨e, he⟩ => ih ⟨e + 1, by rw [he, Nat.pow_succ']⟩

theorem nextPow2Go_ge_start (n : Nat) : ∀ fuel p, p ≤ nextPow2Go n fuel p := by
  intro fuel p
  fun_induction nextPow2Go n fuel p with
  | case1 p => exact Nat.le_refl p
  | case2 fuel p _ => exact Nat.le_refl p
  | case3 fuel p _ ih => exact Nat.le_trans (Nat.le_mul_of_pos_left p (by decide)) ih

theorem nextPow2_ge (n : Nat) (h : n ≤ USIZE) : n ≤ nextPow2 n := by
  unfold nextPow2
  apply nextPow2Go_ge
  simpa [USIZE] using h

theorem nextPow2_pow (n : Nat) : ∃ e, nextPow2 n = 2 ^ e :=
  nextPow2Go_pow n 64 1 ⟨0, rfl⟩

theorem pow2_dvd8 (p : Nat) (hp : ∃ e, p = 2 ^ e) (h : 9 ≤ p) : 8 ∣ p := by
  obtain ⟨e, rfl⟩ := hp
  have he : 3 ≤ e := Nat.le_of_not_lt fun hlt =>
    absurd (Nat.le_trans h (Nat.pow_le_pow_right (by decide) (Nat.le_of_lt_succ hlt))) (by decide)
  exact Nat.pow_dvd_pow 2 he

theorem capToBuckets_spec (cap b : Nat) (h : capToBuckets cap = some b) : 4 ≤ b ∧ cap ≤ fullCap b := by
  unfold capToBuckets at h
  split at h
  · next h4 => cases h; exact ⟨Nat.le_refl 4, Nat.le_of_lt_succ (h4 : cap < fullCap 4 + 1)⟩
  split at h
  · next h8 => cases h; exact ⟨by decide, Nat.le_of_lt_succ (h8 : cap < fullCap 8 + 1)⟩
  split at h
  · cases h
  · next h8 hov =>
    cases h
    have h9 : 9 ≤ cap * 8 / 7 := by omega
    have hge := nextPow2_ge (cap * 8 / 7) (Nat.le_trans (Nat.div_le_self ..) (Nat.le_of_not_le hov))
    have hb := Nat.le_trans h9 hge
    -- a power of two that is at least `cap * 8 / 7 ≥ 9` is a multiple of 8, so `b / 8 * 7` loses nothing
    obtain ⟨q, hq⟩ := pow2_dvd8 _ (nextPow2_pow _) hb
    rw [hq] at hge hb ⊢
    rw [fullCap, if_neg (Nat.not_le.2 hb), Nat.mul_div_cancel_left _ (by decide)]
    exact ⟨Nat.le_trans (by decide) hb, by omega⟩

/-- This is what makes every table griddle allocates large enough. -/
theorem fullCap_capToBuckets (cap b : Nat) (h : capToBuckets cap = some b) : cap ≤ fullCap b :=
  (capToBuckets_spec cap b h).2

theorem capToBuckets_ge4 (cap b : Nat) (h : capToBuckets cap = some b) : 4 ≤ b :=
  (capToBuckets_spec cap b h).1

theorem fullCap_one : fullCap 1 = 0 := by simp [fullCap]

theorem fullCap_le (b : Nat) : fullCap b ≤ b := by
  unfold fullCap
  split
  · exact Nat.sub_le b 1
  · exact Nat.le_trans (Nat.mul_le_mul_left _ (by decide : 7 ≤ 8)) (Nat.div_mul_le_self b 8)

end Griddle
