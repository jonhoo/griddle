/-
  Vocabulary of the object ledger of entry / raw-entry handle chains: every key and value object that is stored,
  held by the handle, or created by the caller for a step is afterwards exactly one of: stored, held by the
  handle, handed back, dropped.  (Multisets of identities; the bookkeeping is done in `Multiset ℕ`, where `abel`
  closes the re-association goals.)  The ledger of one step is `chainStep_ledger` in `Entry.lean`.
-/
import Mathlib.Algebra.Order.Group.Multiset
import Mathlib.Tactic.Abel
import GriddleModel.Lemmas.MapOps
namespace Griddle

/- Found once: `abel`, `add_zero`, `add_assoc` look these up at every use, and the search through Mathlib's algebraic
   hierarchy is several times dearer to check than the step that asks for it. -/
instance : AddCommMonoid (Multiset ℕ) := inferInstance
instance : AddZeroClass (Multiset ℕ) := inferInstance
instance : AddSemigroup (Multiset ℕ) := inferInstance

/-- identities of a list of entries, as a multiset -/
def msIds (es : List Entry) : Multiset Nat := (idsOf es : List Nat)
def ms (l : List Nat) : Multiset Nat := (l : List Nat)

theorem ms_append (a b : List Nat) : ms (a ++ b) = ms a + ms b := by
  unfold ms; rw [Multiset.coe_add]
theorem ms_perm {a b : List Nat} : a.Perm b ↔ ms a = ms b := Multiset.coe_eq_coe.symm
theorem ms_nil : ms [] = 0 := rfl
theorem ms_cons (a : Nat) (l : List Nat) : ms (a :: l) = ms [a] + ms l := by
  rw [← ms_append]; rfl
theorem ms_pair (a b : Nat) : ms [a, b] = ms [a] + ms [b] := ms_cons a [b]
theorem msIds_def (es : List Entry) : msIds es = ms (idsOf es) := rfl
theorem msIds_cons (e : Entry) (es : List Entry) : msIds (e :: es) = ms e.ids + msIds es := by
  unfold msIds ms; rw [idsOf_cons, Multiset.coe_add]; rfl
theorem msIds_append (a b : List Entry) : msIds (a ++ b) = msIds a + msIds b := by
  unfold msIds; rw [idsOf_append, Multiset.coe_add]
theorem msIds_perm {a b : List Entry} (h : a.Perm b) : msIds a = msIds b := by
  unfold msIds; exact Multiset.coe_eq_coe.2 (idsOf_perm h)

/-- how an effect `a + M' = b + M` on the stored objects enters a ledger equation -/
theorem ms_swap {a b M M' X Y : Multiset Nat} (key : a + M' = b + M) (hbal : b + X = a + Y) :
    M' + X = M + Y := by
  apply add_left_cancel (a := a + b)
  calc a + b + (M' + X) = (a + M') + (b + X) := by abel
    _ = (b + M) + (a + Y) := by rw [key, hbal]
    _ = a + b + (M + Y) := by abel

theorem msIds_mapAt {R : Nat} {m : Map} (h : Inv R m) {k : Nat} {loc : Loc} {e : Entry}
    (hf : m.find k = some (loc, e)) (g : Entry → Entry) (hg : ∀ x, (g x).k = x.k) :
    ms e.ids + msIds (mapAt m loc g).ents = ms (g e).ids + msIds m.ents := by
  rw [msIds_def, msIds_def, ← ms_append, ← ms_append]
  exact ms_perm.1 (idsOf_mapAt h hf g hg)

open Map

/-- the key object a handle carries -/
def heldIds : ES → List Nat
  | .occ _ spare => optIds spare
  | .vac key => optIds key
  | .done => []

/-- handles as the API makes them: raw-entry handles carry no key object, a (non-raw)
    `VacantEntry` owns the key it was created with -/
def ESWF (raw : Bool) : ES → Prop
  | .occ _ spare => raw = true → spare = none
  | .vac key => (raw = true → key = none) ∧ (raw = false → ∃ x, key = some x)
  | .done => True

/-- the handles a lookup makes (and the vacant one `replace_entry_with` leaves) -/
theorem ESWF_vac (raw : Bool) (x : Nat) : ESWF raw (.vac (if raw then none else some x)) :=
  ⟨fun hr => if_pos hr, fun hr => ⟨x, if_neg (Bool.eq_false_iff.1 hr)⟩⟩

theorem ESWF_occ (raw : Bool) (loc : Loc) (x : Nat) : ESWF raw (.occ loc (if raw then none else some x)) :=
  fun hr => if_pos hr

/-- the objects the caller creates for a step — only when the step applies to the handle's variant
    (otherwise the harness, like a program, just drops the handle) -/
def stepIn (raw : Bool) : ES → EStep → List Nat
  | .occ _ _, .insert kid _ vid _ => vid :: (if raw then [kid] else [])
  | .vac _, .insert kid _ vid _ => vid :: (if raw then [kid] else [])
  | .occ _ _, .orInsert lzy kid _ vid _ => (if lzy then [] else [vid]) ++ (if raw && !lzy then [kid] else [])
  | .vac _, .orInsert _ kid _ vid _ => vid :: (if raw then [kid] else [])
  | .occ _ _, .occInsert _ vid => [vid]
  | .occ _ _, .occReplaceEntry _ vid => [vid]
  | .occ _ _, .occReplaceKey kid => if raw then [kid] else []
  | .vac _, .vacInsert _ kid _ vid _ => vid :: (if raw then [kid] else [])
  | _, _ => []

/-- everything that is not stored in the map: handed back, dropped, or held by the handle -/
def restOf (st : ES) (acc : ChainAcc) : Multiset Nat :=
  ms acc.returned + ms acc.cost.dropped + ms (heldIds st)

/-- dropping the handle drops the key object it holds -/
theorem restOf_drop (st : ES) (acc : ChainAcc) :
    restOf .done { acc with cost := acc.cost + { dropped := heldIds st } } = restOf st acc := by
  simp only [restOf, Cost.add_dropped, ms_append, heldIds, ms_nil]
  abel

end Griddle
