/-
  `retain` and `drain_filter`: the loops over an explicit visiting order.  One induction per loop (`retainLoop_full`,
  `drainFilterLoop_full`) says what the loop leaves, yields and drops and that the keys it did not visit stay where
  the iterator expects them; the calls, also those with a panicking closure (C07), run these loops on parts of the order.
-/
import GriddleModel.Lemmas.MapOps
namespace Griddle

/-- the closure's effect on a visited entry: `*v += add` -/
def bumpE (k add : Nat) (x : Entry) : Entry := if x.k == k then { x with v := x.v + add } else x

theorem bumpE_k (k add : Nat) (x : Entry) : (bumpE k add x).k = x.k := by unfold bumpE; split <;> rfl
theorem bumpE_other {k add : Nat} {x : Entry} (h : x.k ≠ k) : bumpE k add x = x := by
  unfold bumpE; have : (x.k == k) = false := by simpa using h
  simp [this]

/-- where the `i`-th visited key lives, as `RawIter` reports it -/
def PlacedAt (nMain i : Nat) (k : Nat) (m : Raw) : Prop :=
  if i < nMain then k ∈ keysOf m.main.ents else k ∈ keysOf (oldEnts m)

/-- every key still to be visited is where the iterator will say it is -/
def Placed (nMain : Nat) : Nat → List Nat → Raw → Prop
  | _, [], _ => True
  | i, k :: rest, m => PlacedAt nMain i k m ∧ Placed nMain (i + 1) rest m

theorem placed_iff {nMain : Nat} {m : Raw} : ∀ (ks : List Nat) (i : Nat), Placed nMain i ks m ↔
    (∀ k ∈ ks.take (nMain - i), k ∈ keysOf m.main.ents) ∧
    (∀ k ∈ ks.drop (nMain - i), k ∈ keysOf (oldEnts m)) := by
  intro ks
  induction ks with
  | nil => intro i; exact ⟨fun _ => ⟨by rw [List.take_nil]; nofun, by rw [List.drop_nil]; nofun⟩, fun _ => trivial⟩
  | cons k rest ih =>
    intro i
    unfold Placed PlacedAt
    rw [ih (i + 1), Nat.sub_add_eq]
    by_cases hlt : i < nMain
    · rw [if_pos hlt, ← Nat.succ_pred_eq_of_pos (Nat.sub_pos_of_lt hlt), List.take_succ_cons, List.drop_succ_cons]
      simp only [List.mem_cons, forall_eq_or_imp, and_assoc]
      rfl
    · rw [if_neg hlt, Nat.sub_eq_zero_of_le (Nat.le_of_not_lt hlt), Nat.zero_sub]
      simp only [List.take_zero, List.drop_zero, List.mem_cons, forall_eq_or_imp, List.not_mem_nil, false_imp_iff,
        implies_true, true_and]

theorem Placed.mono {nMain : Nat} {m m' : Raw}
    (hmain : ∀ k, k ∈ keysOf m.main.ents → k ∈ keysOf m'.main.ents ∨ False)
    (hold : ∀ k, k ∈ keysOf (oldEnts m) → k ∈ keysOf (oldEnts m')) :
    ∀ (ks : List Nat) (i : Nat), Placed nMain i ks m → Placed nMain i ks m' := by
  intro ks i h
  rw [placed_iff] at h ⊢
  exact ⟨fun k hk => (hmain k (h.1 k hk)).elim id False.elim, fun k hk => hold k (h.2 k hk)⟩

/-- taking key `k0` out of both tables leaves every other key where it was -/
theorem Placed.of_filter {nMain : Nat} {m m' : Raw} {k0 : Nat}
    (hm : m'.main.ents = m.main.ents.filter (fun x => x.k != k0) ∧ oldEnts m' = (oldEnts m).filter (fun x => x.k != k0)) :
    ∀ (ks : List Nat) (i : Nat), k0 ∉ ks → Placed nMain i ks m → Placed nMain i ks m' := by
  intro ks i hnot h
  rw [placed_iff] at h ⊢
  rw [hm.1, hm.2]
  exact ⟨fun k hk => mem_keysOf_filter (fun hk0 => hnot (hk0 ▸ List.mem_of_mem_take hk)) (h.1 k hk),
    fun k hk => mem_keysOf_filter (fun hk0 => hnot (hk0 ▸ List.mem_of_mem_drop hk)) (h.2 k hk)⟩

theorem Placed.of_append {nMain : Nat} {m : Raw} : ∀ (pre suf : List Nat) (i : Nat),
    Placed nMain i (pre ++ suf) m → Placed nMain i pre m ∧ Placed nMain (i + pre.length) suf m := by
  intro pre
  induction pre with
  | nil => intro suf i h; exact ⟨trivial, h⟩
  | cons k rest ih =>
    intro suf i h
    have := ih suf (i + 1) h.2
    rw [Nat.add_right_comm] at this
    exact ⟨⟨h.1, this.1⟩, this.2⟩

theorem Placed.drop {nMain : Nat} {m : Raw} : ∀ (n : Nat) (ks : List Nat) (i : Nat),
    Placed nMain i ks m → Placed nMain (i + n) (ks.drop n) m
  | 0, _, _, h => h
  | _ + 1, [], _, _ => trivial
  | n + 1, _ :: rest, i, h => by
    rw [List.drop_succ_cons, ← Nat.add_assoc, Nat.add_right_comm]
    exact Placed.drop n rest (i + 1) h.2

theorem find_of_placed {R : Nat} {m : Raw} (h : Inv R m) {nMain i k : Nat} (hp : PlacedAt nMain i k m) :
    ∃ e, m.find k = some (Map.locOfIndex nMain i k, e) := by
  unfold PlacedAt at hp
  unfold Map.locOfIndex
  split at hp
  · next hlt =>
    obtain ⟨e, he, rfl⟩ := List.mem_map.1 hp
    exact ⟨e, decide_eq_true hlt ▸ (find_of_mem h).1 he⟩
  · next hlt =>
    obtain ⟨e, he, rfl⟩ := List.mem_map.1 hp
    exact ⟨e, decide_eq_false hlt ▸ (find_of_mem h).2 he⟩

/-- the closure's `*v += add` on the `i`-th visited key -/
theorem bump_spec {R : Nat} {m m1 : Raw} (h : Inv R m) {nMain i k : Nat} (add : Nat) (hp : PlacedAt nMain i k m)
    (hm1 : Map.bump m (Map.locOfIndex nMain i k) add = m1) :
    ∃ e, (absOf m k).map (bumpE k add) = some e ∧ Inv R m1 ∧ m1.find k = some (Map.locOfIndex nMain i k, e) ∧
      (∀ ks j, Placed nMain j ks m → Placed nMain j ks m1) ∧
      absOf m1 k = some e ∧ (∀ k', k' ≠ k → absOf m1 k' = absOf m k') ∧ idsOf m1.ents = idsOf m.ents ∧
      m1.main.buckets = m.main.buckets ∧ m1.main.gl = m.main.gl ∧ m1.lo.isSome = m.lo.isSome := by
  subst hm1
  obtain ⟨e, hf⟩ := find_of_placed h hp
  have hk : e.k = k := (find_loc hf).2.1
  have hg : ∀ x : Entry, ({ x with v := x.v + add } : Entry).k = x.k := fun _ => rfl
  have ha : absOf m k = some e := by rw [← find_snd, hf]; rfl
  obtain ⟨hi, hf1, hm, ho, hb, hgl, hl⟩ := mapAt_spec h hf _ hg
  refine ⟨_, by rw [ha, Option.map_some, bumpE, hk, beq_self_eq_true, if_pos rfl], hi, hf1, ?_, ?_, fun k' hk' => ?_, ?_,
    hb, hgl, hl⟩
  · have hkeys : ∀ es : List Entry,
        keysOf (es.map fun y => if y.k == k then { y with v := y.v + add } else y) = keysOf es :=
      fun es => keysOf_map_same _ (bumpE_k k add)
    refine Placed.mono (fun k' hk' => .inl ?_) fun k' hk' => ?_
    · rw [bump_eq_mapAt, hm, hkeys]; exact hk'
    · rw [bump_eq_mapAt, ho, hkeys]; exact hk'
  · rw [bump_eq_mapAt, absOf_mapAt h hf _ hg, if_pos rfl, ha]; rfl
  · rw [bump_eq_mapAt, absOf_mapAt h hf _ hg, if_neg hk']
  · rw [bump_eq_mapAt, mapAt_ents h hf _ hg]
    exact idsOf_map_ids _ _ fun x => by split <;> rfl

/-- abstract effect of `retain`'s loop over the visiting order `ks` -/
def specRetain (p : Pred) (a : Nat → Option Entry) (ks : List Nat) (k' : Nat) : Option Entry :=
  if k' ∈ ks then (if p.test k' then (a k').map (bumpE k' p.add) else none) else a k'

theorem specRetain_nil (p : Pred) (a : Nat → Option Entry) : specRetain p a [] = a := by
  funext k'; simp [specRetain]

theorem specRetain_cons {p : Pred} {a b : Nat → Option Entry} {k : Nat} {rest : List Nat} (hk : k ∉ rest)
    (hkk : b k = if p.test k then (a k).map (bumpE k p.add) else none) (hoth : ∀ k', k' ≠ k → b k' = a k') :
    specRetain p b rest = specRetain p a (k :: rest) := by
  funext k'
  unfold specRetain
  by_cases hkk' : k' = k
  · subst hkk'; rw [if_neg hk, if_pos List.mem_cons_self, hkk]
  · simp only [List.mem_cons, hkk', false_or, hoth k' hkk']

/-- `retain`'s loop over a placed visiting order; an old table it empties stays parked (`erase`, not `remove`). -/
theorem retainLoop_full {R : Nat} (p : Pred) (nMain : Nat) :
    ∀ (ks : List Nat) (i : Nat) (m : Map) (empt : Nat) (cost : Cost),
      Inv R m → ks.Nodup → Placed nMain i ks m →
      ∃ m' cost', Map.retainLoop p nMain ks i m empt cost = .ok (m', cost') ∧ Inv R m' ∧
        absOf m' = specRetain p (absOf m) ks ∧
        (idsOf m'.ents ++ cost'.dropped).Perm (idsOf m.ents ++ cost.dropped) ∧
        m'.main.buckets = m.main.buckets ∧ m.main.gl ≤ m'.main.gl ∧ m'.lo.isSome = m.lo.isSome ∧
        cost'.allocs = cost.allocs ∧ cost'.frees = cost.frees ∧ cost'.hashes = cost.hashes ∧ cost'.moved = cost.moved := by
  intro ks
  induction ks with
  | nil =>
    intro i m empt cost h _ _
    exact ⟨m, cost, rfl, h, (specRetain_nil ..).symm, .refl _, rfl, Nat.le_refl _, rfl, rfl, rfl, rfl, rfl⟩
  | cons k rest ih =>
    intro i m empt cost h hnd ⟨hp1, hp2⟩
    obtain ⟨hk, hndr⟩ := List.nodup_cons.1 hnd
    unfold Map.retainLoop
    dsimp only
    generalize hm1 : Map.bump m (Map.locOfIndex nMain i k) p.add = m1
    obtain ⟨e, hae, b1, hf1, hpl1, hk1, hoth1, hids1, bb, bg, bl⟩ := bump_spec h p.add hp1 hm1
    cases ht : p.test k with
    | true =>
      rw [if_pos rfl]
      obtain ⟨m', c', hr, hi, ha, hl, hb, hg, hs, hc⟩ := ih (i + 1) m1 empt cost b1 hndr (hpl1 _ _ hp2)
      refine ⟨m', c', hr, hi, ?_, hids1 ▸ hl, hb.trans bb, bg ▸ hg, hs.trans bl, hc⟩
      rw [ha]
      exact specRetain_cons hk (by rw [hk1, ht, if_pos rfl, hae]) hoth1
    | false =>
      rw [if_neg Bool.false_ne_true]
      rw [(filterAt_routes hf1 _).1]
      dsimp only
      obtain ⟨hi2, hm2, ho2, hb2, hg2, hl2⟩ := filterAt_spec b1 hf1 (decide (0 < empt))
      have ha2 := absOf_filter (filterAt_ents b1 hf1 (decide (0 < empt)))
      obtain ⟨m', c', hr, hi, ha, hl, hb, hg, hs, hc⟩ := ih (i + 1) _ _ (cost + { dropped := e.ids }) hi2 hndr
        (Placed.of_filter ⟨hm2, ho2⟩ rest (i + 1) hk (hpl1 _ _ hp2))
      refine ⟨m', c', hr, hi, ?_, ?_, (hb.trans hb2).trans bb, Nat.le_trans (bg ▸ hg2) hg, (hs.trans hl2).trans bl, hc⟩
      · rw [ha]
        exact specRetain_cons hk (by rw [ha2, specDel, if_pos rfl, ht, if_neg Bool.false_ne_true]) fun k' hk' => by
          rw [ha2, specDel, if_neg hk', hoth1 k' hk']
      · -- I(m') ++ D' ~ I(m2) ++ (D ++ e.ids) ~ (e.ids ++ I(m2)) ++ D = I(e :: m2) ++ D ~ I(m) ++ D
        rw [Cost.add_dropped, ← List.append_assoc] at hl
        exact hl.trans (List.perm_append_comm.trans
          (List.append_assoc .. ▸ (hids1 ▸ idsOf_perm (filterAt_perm b1 hf1 _)).append_right _))

theorem retainLoop_spec {R : Nat} (hR : 0 < R) (p : Pred) (nMain : Nat) :
    ∀ (ks : List Nat) (i : Nat) (m : Map) (empt : Nat) (cost : Cost),
      Inv R m → ks.Nodup → Placed nMain i ks m →
      ∃ m' cost', Map.retainLoop p nMain ks i m empt cost = .ok (m', cost') ∧ Inv R m' ∧
        absOf m' = specRetain p (absOf m) ks ∧
        m'.main.buckets = m.main.buckets ∧ m.main.gl ≤ m'.main.gl ∧ m'.lo.isSome = m.lo.isSome ∧
        cost'.allocs = cost.allocs ∧ cost'.frees = cost.frees ∧ cost'.hashes = cost.hashes ∧ cost'.moved = cost.moved := by
  intro ks i m empt cost h hnd hpl
  obtain ⟨m', c', hr, hi, ha, -, hrest⟩ := retainLoop_full p nMain ks i m empt cost h hnd hpl
  exact ⟨m', c', hr, hi, ha, hrest⟩

/-- The visiting orders `iterOrderOk` admits: an enumeration of the main table's keys, then the old table's keys as
    they stand (cursor agreement: the cursor covers all of them). -/
theorem iterOrder_shape {R : Nat} {m : Map} {order : List Nat} (h : Inv R m) (hok : Map.iterOrderOk m order = true) :
    ∃ mk, order = mk ++ keysOf (oldEnts m) ∧ mk.Perm (keysOf m.main.ents) := by
  unfold Map.iterOrderOk at hok
  simp only [Bool.and_eq_true, decide_eq_true_eq, List.all_eq_true] at hok
  obtain ⟨⟨⟨hlen, hnd⟩, hall⟩, hold⟩ := hok
  refine ⟨order.take m.main.ents.length, ?_, keys_perm_of_length hlen hnd fun k hk => mem_keysOf_of_isSome (hall k hk)⟩
  conv_lhs => rw [← List.take_append_drop m.main.ents.length order, hold]
  unfold oldEnts keysOf
  cases hlo : m.lo with
  | none => rfl
  | some o => simp only; rw [h.agree o hlo, List.take_length]

theorem keys_of_iterOrderOk {R : Nat} {m : Map} {order : List Nat} (h : Inv R m)
    (hok : Map.iterOrderOk m order = true) : order.Perm (keysOf m.ents) := by
  obtain ⟨mk, rfl, hp⟩ := iterOrder_shape h hok
  exact keysOf_ents m ▸ hp.append_right _

theorem placed_of_iterOrderOk {R : Nat} (m : Map) (order : List Nat) (h : Inv R m)
    (hok : Map.iterOrderOk m order = true) :
    Placed m.main.ents.length 0 order m ∧ order.Nodup ∧ (∀ k, k ∈ order ↔ k ∈ keysOf m.ents) := by
  have hperm := keys_of_iterOrderOk h hok
  obtain ⟨mk, rfl, hp⟩ := iterOrder_shape h hok
  refine ⟨(placed_iff _ 0).2 ?_, hperm.nodup_iff.2 h.nodup, fun k => hperm.mem_iff⟩
  rw [Nat.sub_zero, show m.main.ents.length = mk.length by rw [hp.length_eq, keysOf, List.length_map],
    List.take_left, List.drop_left]
  exact ⟨fun k hk => hp.subset hk, fun _ hk => hk⟩

/-- a call that checks the visiting order first: an oracle fault, or its body runs on an order as above -/
theorem OkOr.of_iterOrderOk {R : Nat} {α : Type} {m : Map} {order : List Nat} {msg : String} {body : Except Fault α}
    {P : α → Prop} (h : Inv R m)
    (hbody : Placed m.main.ents.length 0 order m → order.Nodup → (∀ k, k ∈ order ↔ k ∈ keysOf m.ents) →
      OkOr body P) :
    OkOr (if !Map.iterOrderOk m order then .error (.oracle msg) else body) P := by
  cases hok : Map.iterOrderOk m order with
  | false => exact ⟨_, rfl⟩
  | true =>
    obtain ⟨hpl, hnd, hcov⟩ := placed_of_iterOrderOk m order h hok
    exact hbody hpl hnd hcov

theorem Map.retain_spec {R : Nat} (m : Map) (p : Pred) (o : Orc) (h : Inv R m) :
    OkOr (Map.retain m p o) (fun r =>
      Inv R r.1 ∧ o.calls.Nodup ∧ (∀ k, k ∈ o.calls ↔ k ∈ keysOf m.ents) ∧
      (∀ k, absOf r.1 k = if p.test k then (absOf m k).map (bumpE k p.add) else none) ∧
      r.1.lo.isSome = m.lo.isSome ∧ r.1.main.buckets = m.main.buckets ∧ r.2.cost.allocs = 0 ∧ r.2.cost.hashes = 0 ∧
      (idsOf r.1.ents ++ r.2.cost.dropped).Perm (idsOf m.ents) ∧ r.2.returned = []) := by
  unfold Map.retain
  refine OkOr.of_iterOrderOk h fun hpl hnd hcov => ?_
  obtain ⟨m', c', hr, hi, ha, hl, hb, -, hs, c1, -, c3, -⟩ :=
    retainLoop_full p m.main.ents.length o.calls 0 m o.empt {} h hnd hpl
  rw [hr]
  refine .ok ⟨hi, hnd, hcov, fun k => ?_, hs, hb, c1, c3, by rwa [List.append_nil] at hl, rfl⟩
  rw [ha, specRetain]
  by_cases hk : k ∈ o.calls
  · rw [if_pos hk]
  · rw [if_neg hk, (absOf_none_iff m k).2 fun hin => hk ((hcov k).2 hin)]
    cases p.test k <;> rfl

/-- abstract effect of visiting the keys `ks`: matching entries leave, the others get the mutation -/
def specDrain (p : Pred) (a : Nat → Option Entry) (ks : List Nat) (k' : Nat) : Option Entry :=
  if k' ∈ ks then (if p.test k' then none else (a k').map (bumpE k' p.add)) else a k'

/-- what the visit of `ks` yields, in order -/
def yieldOf (p : Pred) (a : Nat → Option Entry) (ks : List Nat) : List Entry :=
  ks.filterMap (fun k => if p.test k then (a k).map (bumpE k p.add) else none)

theorem specDrain_nil (p : Pred) (a : Nat → Option Entry) : specDrain p a [] = a := by
  funext k'; simp [specDrain]

theorem specDrain_append (p : Pred) (a : Nat → Option Entry) (l1 l2 : List Nat)
    (hdis : l1.Disjoint l2) :
    specDrain p (specDrain p a l1) l2 = specDrain p a (l1 ++ l2) := by
  funext k'
  unfold specDrain
  by_cases h2 : k' ∈ l2
  · have h1 : k' ∉ l1 := fun h => hdis h h2
    simp [h1, h2]
  · by_cases h1 : k' ∈ l1 <;> simp [h1, h2]

theorem specDrain_cons {p : Pred} {a b : Nat → Option Entry} {k : Nat} {pre : List Nat} (hk : k ∉ pre)
    (hkk : b k = if p.test k then none else (a k).map (bumpE k p.add)) (hoth : ∀ k', k' ≠ k → b k' = a k') :
    specDrain p b pre = specDrain p a (k :: pre) := by
  funext k'
  unfold specDrain
  by_cases hkk' : k' = k
  · subst hkk'; rw [if_neg hk, if_pos List.mem_cons_self, hkk]
  · simp only [List.mem_cons, hkk', false_or, hoth k' hkk']

theorem specDrain_all {p : Pred} {a : Nat → Option Entry} {ks : List Nat} (k : Nat) (hcov : k ∉ ks → a k = none) :
    specDrain p a ks k = if p.test k then none else (a k).map (bumpE k p.add) := by
  unfold specDrain
  by_cases hk : k ∈ ks
  · rw [if_pos hk]
  · rw [if_neg hk, hcov hk]
    cases p.test k <;> rfl

theorem yieldOf_congr (p : Pred) (a b : Nat → Option Entry) (ks : List Nat) (h : ∀ k ∈ ks, a k = b k) :
    yieldOf p a ks = yieldOf p b ks :=
  List.filterMap_congr fun k hk => by rw [h k hk]

theorem yieldOf_cons {p : Pred} {a b : Nat → Option Entry} {k : Nat} {pre : List Nat} (hk : k ∉ pre)
    (hoth : ∀ k', k' ≠ k → b k' = a k') :
    yieldOf p a (k :: pre) = (if p.test k then (a k).map (bumpE k p.add) else none).toList ++ yieldOf p b pre := by
  rw [yieldOf_congr p b a pre fun k' hk' => hoth k' fun hkk => hk (hkk ▸ hk'), yieldOf, List.filterMap_cons]
  generalize (if p.test k then (a k).map (bumpE k p.add) else none) = x
  cases x <;> rfl

/-- `drain_filter`'s loop (`DrainFilter::next` called until `take` items came out, or to the end when
    `take = none`): it stops after a prefix `pre` of the visiting order; an old table emptied on the way is released at
    once (`remove`); the keys not visited are still where the iterator expects them. -/
theorem drainFilterLoop_full {R : Nat} (hR : 0 < R) (p : Pred) (nMain : Nat) :
    ∀ (ks : List Nat) (i : Nat) (m : Map) (empt : Nat) (take : Option Nat) (acc : List Entry) (cost : Cost),
      Inv R m → ks.Nodup → Placed nMain i ks m →
      ∃ m' ys cost' restOut pre, Map.drainFilterLoop p nMain ks i m empt take acc cost = .ok (m', ys, cost', restOut) ∧
        ks = pre ++ restOut ∧ Inv R m' ∧ absOf m' = specDrain p (absOf m) pre ∧
        ys = acc.reverse ++ yieldOf p (absOf m) pre ∧
        (∀ extra j, pre.Disjoint extra → Placed nMain j extra m → Placed nMain j extra m') ∧
        (take = none → restOut = []) ∧
        (∀ t, take = some t → (yieldOf p (absOf m) pre).length ≤ t ∧
          (restOut ≠ [] → (yieldOf p (absOf m) pre).length = t)) ∧
        (idsOf m'.ents ++ idsOf (yieldOf p (absOf m) pre)).Perm (idsOf m.ents) ∧
        cost'.allocs = cost.allocs ∧ cost'.hashes = cost.hashes ∧ cost'.moved = cost.moved ∧
        cost'.dropped = cost.dropped := by
  intro ks
  induction ks with
  | nil =>
    intro i m empt take acc cost h _ _
    exact ⟨m, acc.reverse, cost, [], [], rfl, rfl, h, (specDrain_nil ..).symm, (List.append_nil _).symm,
      fun _ _ _ hp => hp, fun _ => rfl, fun t _ => ⟨Nat.zero_le _, fun hne => absurd rfl hne⟩,
      .of_eq (List.append_nil _), rfl, rfl, rfl, rfl⟩
  | cons k rest ih =>
    intro i m empt take acc cost h hnd ⟨hp1, hp2⟩
    obtain ⟨hk, hndr⟩ := List.nodup_cons.1 hnd
    unfold Map.drainFilterLoop
    by_cases ht0 : take = some 0
    · rw [if_pos ht0]
      refine ⟨m, acc.reverse, cost, k :: rest, [], rfl, rfl, h, (specDrain_nil ..).symm, (List.append_nil _).symm,
        fun _ _ _ hp => hp, fun hc => absurd (ht0.symm.trans hc) nofun, fun t ht => ?_,
        .of_eq (List.append_nil _), rfl, rfl, rfl, rfl⟩
      obtain rfl : 0 = t := Option.some.inj (ht0.symm.trans ht)
      exact ⟨Nat.le_refl _, fun _ => rfl⟩
    · rw [if_neg ht0]
      dsimp only
      generalize hm1 : Map.bump m (Map.locOfIndex nMain i k) p.add = m1
      obtain ⟨e, hae, b1, hf1, hpl1, hk1, hoth1, hids1, -⟩ := bump_spec h p.add hp1 hm1
      cases htest : p.test k with
      | false =>
        rw [if_neg Bool.false_ne_true]
        obtain ⟨m', ys, c', ro, pre, hr, hks, hi, ha, hy, hfr, hnone, htk, hl, hc⟩ :=
          ih (i + 1) m1 empt take acc cost b1 hndr (hpl1 _ _ hp2)
        have hkpre : k ∉ pre := fun hin => hk (hks ▸ List.mem_append_left _ hin)
        have hyk : yieldOf p (absOf m) (k :: pre) = yieldOf p (absOf m1) pre := by
          rw [yieldOf_cons hkpre hoth1, htest]; rfl
        rw [← hyk] at hy htk hl
        refine ⟨m', ys, c', ro, k :: pre, hr, by rw [hks]; rfl, hi, ?_, hy, fun extra j hd hpe => ?_, hnone, htk,
          hids1 ▸ hl, hc⟩
        · rw [ha]
          exact specDrain_cons hkpre (by rw [hk1, htest, ← hae]; rfl) hoth1
        · exact hfr extra j (List.disjoint_cons_left.1 hd).2 (hpl1 _ _ hpe)
      | true =>
        rw [if_pos rfl]
        obtain ⟨m2, rc, he, hi2, hperm, -, -, ra, rh, rm, rd, -⟩ := removeAt_spec hR b1 hf1 (decide (0 < empt))
        rw [he]
        dsimp only
        have htab := removeAt_tables b1 hf1 he
        have ha2 := absOf_filter htab.2.2
        have hkeep := Placed.of_filter (nMain := nMain) ⟨htab.1, htab.2.1⟩
        obtain ⟨m', ys, c', ro, pre, hr, hks, hi, ha, hy, hfr, hnone, htk, hl, c1, c2, c3, c4⟩ :=
          ih (i + 1) m2 _ (take.map (· - 1)) (e :: acc) (cost + rc) hi2 hndr (hkeep rest (i + 1) hk (hpl1 _ _ hp2))
        have hkpre : k ∉ pre := fun hin => hk (hks ▸ List.mem_append_left _ hin)
        have hoth : ∀ k', k' ≠ k → absOf m2 k' = absOf m k' := fun k' hk' => by
          rw [ha2, specDel, if_neg hk', hoth1 k' hk']
        have hyk : yieldOf p (absOf m) (k :: pre) = e :: yieldOf p (absOf m2) pre := by
          rw [yieldOf_cons hkpre hoth, htest, if_pos rfl, hae]; rfl
        refine ⟨m', ys, c', ro, k :: pre, hr, by rw [hks]; rfl, hi, ?_, ?_, fun extra j hd hpe => ?_,
          fun hn => hnone (by rw [hn]; rfl), fun t ht => ?_, ?_,
          by rw [c1, Cost.add_allocs, ra]; rfl, by rw [c2, Cost.add_hashes, rh]; rfl, by rw [c3, Cost.add_moved, rm]; rfl,
          by rw [c4, Cost.add_dropped, rd, List.append_nil]⟩
        · rw [ha]
          exact specDrain_cons hkpre (by rw [ha2, specDel, if_pos rfl, htest, if_pos rfl]) hoth
        · rw [hy, hyk, List.reverse_cons, List.append_assoc]; rfl
        · obtain ⟨hkx, hd⟩ := List.disjoint_cons_left.1 hd
          exact hfr extra j hd (hkeep extra j hkx (hpl1 _ _ hpe))
        · have hpos : 1 ≤ t := Nat.one_le_iff_ne_zero.2 fun h0 => ht0 (h0 ▸ ht)
          obtain ⟨h1, h2⟩ := htk (t - 1) (by rw [ht]; rfl)
          rw [hyk, List.length_cons]
          exact ⟨Nat.add_le_of_le_sub hpos h1, fun hne => by rw [h2 hne, Nat.sub_add_cancel hpos]⟩
        · -- I(m') ++ (e.ids ++ I(Y)) ~ e.ids ++ (I(m') ++ I(Y)) ~ e.ids ++ I(m2) = I(e :: m2) ~ I(m)
          rw [hyk]
          exact (List.perm_append_comm_assoc ..).trans ((hl.append_left e.ids).trans (hids1 ▸ idsOf_perm hperm))

theorem drainFilterLoop_spec {R : Nat} (hR : 0 < R) (p : Pred) (nMain : Nat) :
    ∀ (ks : List Nat) (i : Nat) (m : Map) (empt : Nat) (take : Option Nat) (acc : List Entry) (cost : Cost),
      Inv R m → ks.Nodup → Placed nMain i ks m →
      ∃ m' ys cost' restOut pre, Map.drainFilterLoop p nMain ks i m empt take acc cost = .ok (m', ys, cost', restOut) ∧
        ks = pre ++ restOut ∧ Inv R m' ∧ absOf m' = specDrain p (absOf m) pre ∧
        ys = acc.reverse ++ yieldOf p (absOf m) pre ∧
        Placed nMain (i + pre.length) restOut m' ∧
        (take = none → restOut = []) ∧
        (∀ t, take = some t → (yieldOf p (absOf m) pre).length ≤ t ∧
          (restOut ≠ [] → (yieldOf p (absOf m) pre).length = t)) ∧
        cost'.allocs = cost.allocs ∧ cost'.hashes = cost.hashes ∧ cost'.moved = cost.moved ∧
        cost'.dropped = cost.dropped := by
  intro ks i m empt take acc cost h hnd hpl
  obtain ⟨m', ys, c', ro, pre, hr, rfl, hi, ha, hy, hfr, hnone, htk, -, hc⟩ :=
    drainFilterLoop_full hR p nMain ks i m empt take acc cost h hnd hpl
  exact ⟨m', ys, c', ro, pre, hr, rfl, hi, ha, hy,
    hfr ro _ (List.disjoint_of_nodup_append hnd) (Placed.of_append pre ro i hpl).2, hnone, htk, hc⟩

theorem Map.drainFilter_spec {R : Nat} (hR : 0 < R) (m : Map) (p : Pred) (take : Nat) (forget : Bool) (o : Orc)
    (h : Inv R m) :
    OkOr (Map.drainFilter m p take forget o) (fun r =>
      Inv R r.1 ∧ ∃ pre rest, o.calls = pre ++ rest ∧
        r.2.ret = .ents (yieldOf p (absOf m) pre) ∧ (yieldOf p (absOf m) pre).length ≤ take ∧
        (forget = true → absOf r.1 = specDrain p (absOf m) pre) ∧
        (forget = false → ∀ k, absOf r.1 k = if p.test k then none else (absOf m k).map (bumpE k p.add)) ∧
        (idsOf r.1.ents ++ r.2.returned ++ r.2.cost.dropped).Perm (idsOf m.ents) ∧
        (forget = true → r.2.cost.dropped = [])) := by
  unfold Map.drainFilter
  refine OkOr.of_iterOrderOk h fun hpl hnd hcov => ?_
  obtain ⟨m1, ys, c1, ro, pre, hr, hks, hi, ha, hy, hfr, -, htk, hl, -, -, -, hd⟩ :=
    drainFilterLoop_full hR p m.main.ents.length o.calls 0 m o.empt (some take) [] {} h hnd hpl
  obtain rfl : ys = yieldOf p (absOf m) pre := hy.trans (List.nil_append _)
  dsimp only
  rw [hr]
  dsimp only
  cases forget with
  | true =>
    rw [if_pos rfl]
    exact .ok ⟨hi, pre, ro, hks, rfl, (htk take rfl).1, fun _ => ha, nofun, by rw [hd]; exact List.append_nil _ ▸ hl,
      fun _ => hd⟩
  | false =>
    rw [if_neg Bool.false_ne_true, show o.calls.length - ro.length = 0 + pre.length by
      rw [hks, List.length_append, Nat.add_sub_cancel, Nat.zero_add]]
    rw [hks] at hnd hpl
    have hdis := List.disjoint_of_nodup_append hnd
    obtain ⟨m2, ys2, c2, ro2, pre2, hr2, hks2, hi2, ha2, hy2, -, hnone2, -, hl2, -, -, -, hd2⟩ :=
      drainFilterLoop_full hR p m.main.ents.length ro (0 + pre.length) m1
        (o.empt - ((yieldOf p (absOf m) pre).filter (fun e => (m.main.find? e.k).isSome)).length) none [] {} hi
        hnd.of_append_right (hfr ro _ hdis (Placed.of_append pre ro 0 hpl).2)
    obtain rfl := hnone2 rfl
    obtain rfl : ro = pre2 := hks2.trans (List.append_nil _)
    obtain rfl : ys2 = yieldOf p (absOf m1) ro := hy2.trans (List.nil_append _)
    rw [hr2]
    refine .ok ⟨hi2, pre, ro, hks, rfl, (htk take rfl).1, nofun, fun _ k => ?_, ?_, nofun⟩
    · rw [ha2, ha, specDrain_append p (absOf m) pre ro hdis, ← hks]
      exact specDrain_all k fun hk => (absOf_none_iff m k).2 fun hin => hk ((hcov k).2 hin)
    · -- I(m2) ++ (I(Y1) ++ I(Y2)) ~ I(Y1) ++ (I(m2) ++ I(Y2)) ~ I(Y1) ++ I(m1) ~ I(m)
      simp only [Cost.add_dropped, hd, hd2, List.nil_append, List.append_assoc]
      exact (List.perm_append_comm_assoc ..).trans (((hl2.append_left _).trans List.perm_append_comm).trans hl)

end Griddle
