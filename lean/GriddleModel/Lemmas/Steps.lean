/-
  Histories: a small operation language over the core `HashMap` API, its abstract (reference)
  semantics, and the refinement theorem lifted to arbitrary operation lists.
-/
import GriddleModel.Lemmas.MapOps
import GriddleModel.Lemmas.Capacity
namespace Griddle

inductive Op
  | insert (e : Entry)
  | get (k : Nat)
  | getMut (k add : Nat)
  | remove (k : Nat)
  | clear
  | reserve (n : Nat)
  | tryReserve (n : Nat)
  | shrinkTo (n : Nat)
  deriving Repr

def step (c : Cfg) (m : Map) (op : Op) (o : Orc) : Except Fault (Map × Out) :=
  match op with
  | .insert e => Map.insert c m e o
  | .get k => .ok (m, Map.get m k)
  | .getMut k add => .ok (Map.getMut m k add)
  | .remove k => Map.removeEntry m k o
  | .clear => .ok (Map.clear m)
  | .reserve n => Map.reserve c m n o
  | .tryReserve n => Map.tryReserve c m n o
  | .shrinkTo n => Map.shrinkTo c m n

/-- The reference semantics: a partial function from keys to entries, and what the call returns
    (`none` = the return value is not determined by the contents alone, e.g. `Result` of
    `try_reserve`). -/
def specStep (a : Nat → Option Entry) (op : Op) : (Nat → Option Entry) × Option Ret :=
  match op with
  | .insert e =>
    (match a e.k with
     | some _ => specUpd a e.k e.v e.vid
     | none => specIns a e,
     some (.optV ((a e.k).map (fun x => (x.v, x.vid)))))
  | .get k => (a, some (.optKV (a k)))
  | .getMut k add =>
    (match a k with
     | some x => specUpd a k (x.v + add) x.vid
     | none => a,
     some (.optV ((a k).map (fun x => (x.v + add, x.vid)))))
  | .remove k => (specDel a k, some (.optKV (a k)))
  | .clear => (fun _ => none, some .unit)
  | .reserve _ => (a, some .unit)
  | .tryReserve _ => (a, none)
  | .shrinkTo _ => (a, some .unit)

/-- side condition of a call: `shrink_to`'s size computation needs `2·len() + 1` to fit `usize`
    (always true of a real map: it could not have been allocated otherwise) -/
def pre (m : Map) (op : Op) : Prop :=
  match op with
  | .shrinkTo _ => m.len + m.len + 1 < USIZE
  | _ => True

theorem step_refines (c : Cfg) (hR : 0 < c.R) (m : Map) (op : Op) (o : Orc) (h : Inv c.R m) (hp : pre m op) :
    OkOrCap (step c m op o) (fun r =>
      Inv c.R r.1 ∧ (∀ k, absOf r.1 k = (specStep (absOf m) op).1 k) ∧
      (∀ ret, (specStep (absOf m) op).2 = some ret → r.2.ret = ret)) := by
  cases op with
  | insert e =>
    refine (Map.insert_spec c hR m e o h).mono fun r hs => ⟨hs.1, fun k => ?_, ?_⟩
    · rw [hs.2.1 k]; dsimp only [specStep]; cases absOf m e.k <;> rfl
    · rintro _ ⟨rfl⟩; exact hs.2.2.1
  | get k => exact .ok ⟨h, fun _ => rfl, by rintro _ ⟨rfl⟩; exact (Map.get_spec m k).1⟩
  | getMut k add =>
    have hs := Map.getMut_spec m k add h
    refine .ok ⟨hs.1, fun k' => ?_, by rintro _ ⟨rfl⟩; exact hs.2.2.1⟩
    rw [hs.2.1 k']; dsimp only [specStep]; cases absOf m k <;> rfl
  | remove k =>
    obtain ⟨m', out, hr, hi, ha, hret, _⟩ := Map.removeEntry_spec hR m k o h
    rw [step, hr]
    exact .ok ⟨hi, ha, by rintro _ ⟨rfl⟩; exact hret⟩
  | clear =>
    have hs := clear_spec m h
    exact .ok ⟨hs.1, absOf_nil hs.2.1, by rintro _ ⟨rfl⟩; rfl⟩
  | reserve n =>
    simp only [step, Map.reserve]
    refine (reserve_spec c hR m n o.hits o.perm h).elim (fun _ => id) fun r hs => ?_
    exact .ok ⟨hs.1, absOf_perm hs.2.1 h.nodup, by rintro _ ⟨rfl⟩; rfl⟩
  | tryReserve n =>
    simp only [step, Map.tryReserve]
    refine (tryReserve_spec c hR m n o.hits o.perm h).toCap.elim (fun _ => id) fun r hs => ?_
    exact .ok ⟨hs.1, absOf_perm hs.2.1 h.nodup, fun _ hn => nomatch hn⟩
  | shrinkTo n =>
    simp only [step, Map.shrinkTo]
    refine (shrinkTo_spec c hR m n h hp).elim (fun _ => id) fun r hs => ?_
    exact .ok ⟨hs.1, absOf_perm hs.2.1 h.nodup, by rintro _ ⟨rfl⟩; rfl⟩

/-- run a history; `orcs i` is the oracle of the `i`-th remaining call -/
def run (c : Cfg) : Map → List Op → (Nat → Orc) → Except Fault (Map × List Ret)
  | m, [], _ => .ok (m, [])
  | m, op :: rest, orcs =>
    match step c m op (orcs rest.length) with
    | .error f => .error f
    | .ok (m', out) =>
      match run c m' rest orcs with
      | .error f => .error f
      | .ok (m'', rets) => .ok (m'', out.ret :: rets)

def specRun : (Nat → Option Entry) → List Op → (Nat → Option Entry) × List (Option Ret)
  | a, [] => (a, [])
  | a, op :: rest =>
    let (a', r) := specStep a op
    let (a'', rs) := specRun a' rest
    (a'', r :: rs)

/-- the side conditions hold along the run -/
def runPre (c : Cfg) : Map → List Op → (Nat → Orc) → Prop
  | _, [], _ => True
  | m, op :: rest, orcs =>
    pre m op ∧ ∀ m' out, step c m op (orcs rest.length) = .ok (m', out) → runPre c m' rest orcs

/-- the observed return values agree with the reference wherever the reference determines them -/
def retsAgree : List Ret → List (Option Ret) → Prop
  | [], [] => True
  | r :: rs, s :: ss => (∀ x, s = some x → r = x) ∧ retsAgree rs ss
  | _, _ => False

theorem run_refines (c : Cfg) (hR : 0 < c.R) (orcs : Nat → Orc) :
    ∀ (ops : List Op) (m : Map), Inv c.R m → runPre c m ops orcs →
      OkOrCap (run c m ops orcs) (fun r =>
        Inv c.R r.1 ∧ (∀ k, absOf r.1 k = (specRun (absOf m) ops).1 k) ∧
        retsAgree r.2 (specRun (absOf m) ops).2) := by
  intro ops
  induction ops with
  | nil => exact fun m h _ => .ok ⟨h, fun _ => rfl, trivial⟩
  | cons op rest ih =>
    intro m h hpre
    unfold run
    have hs := step_refines c hR m op (orcs rest.length) h hpre.1
    have hnext := hpre.2
    -- `runPre` speaks of the state the step returns: keep the result as a variable while eliminating it
    generalize step c m op (orcs rest.length) = r at hs hnext ⊢
    revert hnext
    refine hs.elim (fun _ hf _ => hf) fun r hr hnext => ?_
    obtain ⟨⟨m', out⟩, hi, ha, hret⟩ := r, hr
    dsimp only
    refine (ih m' hi (hnext m' out rfl)).elim (fun _ => id) fun r hr => ?_
    obtain ⟨⟨m'', rets⟩, hi2, ha2, hrets⟩ := r, hr
    simp only [specRun]
    rw [funext ha] at ha2 hrets
    exact .ok ⟨hi2, ha2, hret, hrets⟩

end Griddle
