/-
  The invariant of griddle's `RawTable` (`Inv`) and what `carry` does under it, for *all* oracle values.
-/
import GriddleModel.Raw
import GriddleModel.Lemmas.HB
namespace Griddle

def keysOf (es : List Entry) : List Nat := es.map (·.k)

def oldEnts (t : Raw) : List Entry := match t.lo with | some o => o.ents | none => []

/-- The invariant of `RawTable` (I1 counters, I2 cursor agreement, I3 headroom, I4 distinct keys). -/
structure Inv (R : Nat) (t : Raw) : Prop where
  wf : t.main.WF
  agree : ∀ o, t.lo = some o → o.cursor = o.ents.length
  head : ∀ o, t.lo = some o → o.ents.length + ceilDiv o.ents.length R ≤ t.main.gl ∧ 1 ≤ t.main.gl
  nodup : (keysOf t.ents).Nodup

/-- What `carry`'s loop does, for every oracle: it moves exactly `min n L` elements (the first
    ones in cursor order), never reallocates the main table, spends at most one unit of
    `growth_left` per move, and releases the old table iff it ran out of elements. -/
theorem carryLoop_spec (n : Nat) : ∀ (main : HB) (o : Old) (hits : Nat) (cost : Cost),
    main.WF → o.cursor = o.ents.length → min n o.ents.length ≤ main.gl →
    OkOr (Raw.carryLoop main o n hits cost) (fun r =>
      r.1.buckets = main.buckets ∧ r.1.WF ∧
      r.1.gl ≤ main.gl ∧ main.gl ≤ r.1.gl + min n o.ents.length ∧
      (r.1.ents ++ o.ents.drop n).Perm (main.ents ++ o.ents) ∧
      r.1.ents.length = main.ents.length + min n o.ents.length ∧
      (o.ents.length ≤ n → r.2.1 = none) ∧
      (n < o.ents.length → r.2.1 = some { o with ents := o.ents.drop n, cursor := o.ents.length - n }) ∧
      r.2.2.2.moved = cost.moved + min n o.ents.length ∧
      r.2.2.2.hashes = cost.hashes + min n o.ents.length ∧
      r.2.2.2.allocs = cost.allocs ∧
      r.2.2.2.frees = cost.frees + (if o.ents.length ≤ n then 1 else 0) ∧
      r.2.2.2.dropped = cost.dropped) := by
  rintro main ⟨b, ents, c⟩ hits cost hwf (rfl : c = ents.length) hroom
  induction n generalizing main ents hits cost with
  | zero =>
    unfold Raw.carryLoop
    cases ents <;> simp [OkOr, hwf, Old.dropCost, idsOf]
  | succ n ih =>
    unfold Raw.carryLoop
    cases ents with
    | nil => simp [OkOr, hwf, Old.dropCost, idsOf]
    | cons e rest =>
      -- the statement for `n + 1`, `e :: rest` is the one for `n`, `rest`, with one move more
      simp only [List.length_cons, Nat.add_one_ne_zero, if_false, Nat.add_sub_cancel, Nat.add_min_add_right,
        List.drop_succ_cons, Nat.add_lt_add_iff_right, Nat.add_le_add_iff_right, Nat.add_sub_add_right] at hroom ⊢
      refine (HB.insertNoGrow_spec main e (decide (0 < hits)) hwf (Nat.zero_lt_of_lt hroom)).elim (fun _ => id)
        fun main' hm => ?_
      obtain ⟨hb, he, hwf', hgl1, hgl2⟩ := hm
      dsimp only
      refine (ih main' rest (hits - 1) _ hwf' (Nat.le_of_succ_le_succ (Nat.le_trans hroom hgl2))).elim (fun _ => id)
        fun r hr => ?_
      simp only [Cost.add_moved, Cost.add_hashes, Cost.add_allocs, Cost.add_frees, Cost.add_dropped, List.append_nil,
        he, List.length_cons] at hr
      obtain ⟨h1, h2, h3, h4, h5, h6, h7, h8, h9, h10, h11, h12, h13⟩ := hr
      exact .ok ⟨h1.trans hb, h2, Nat.le_trans h3 hgl1, Nat.le_trans hgl2 (Nat.succ_le_succ h4),
        h5.trans List.perm_middle.symm, h6.trans (Nat.add_right_comm ..), h7, h8, h9.trans (Nat.add_right_comm ..),
        h10.trans (Nat.add_right_comm ..), h11, h12, h13⟩

theorem oldEnts_of_some {t : Raw} {o : Old} (h : t.lo = some o) : oldEnts t = o.ents := by rw [oldEnts, h]

theorem oldEnts_of_none {t : Raw} (h : t.lo = none) : oldEnts t = [] := by rw [oldEnts, h]

theorem Raw.ents_eq_oldEnts (t : Raw) : t.ents = t.main.ents ++ oldEnts t := rfl

theorem keysOf_ents (t : Raw) : keysOf t.ents = keysOf t.main.ents ++ keysOf (oldEnts t) := List.map_append

theorem mem_ents_of_old {t : Raw} {x : Entry} (h : x ∈ oldEnts t) : x ∈ t.ents :=
  List.mem_append_right _ h

theorem Raw.ents_none (m : HB) : (Raw.ents { main := m, lo := none }) = m.ents := List.append_nil _

theorem Raw.ents_some (m : HB) (o : Old) : (Raw.ents { main := m, lo := some o }) = m.ents ++ o.ents := rfl

theorem keysOf_perm {a b : List Entry} (h : a.Perm b) : (keysOf a).Perm (keysOf b) := h.map _

theorem Inv.of_unsplit {R : Nat} {m : HB} (hwf : m.WF) (hnd : (keysOf m.ents).Nodup) :
    Inv R { main := m, lo := none } :=
  ⟨hwf, nofun, nofun, by rwa [Raw.ents_none]⟩

/-- `carry`, for every oracle, on a state that has used at most one unit of the headroom
    (which is the situation right after the insertion that precedes it). -/
theorem carry_spec (c : Cfg) (hR : 0 < c.R) (t : Raw) (hits : Nat)
    (hwf : t.main.WF) (hag : ∀ o, t.lo = some o → o.cursor = o.ents.length)
    (hhead : ∀ o, t.lo = some o → o.ents.length + ceilDiv o.ents.length c.R ≤ t.main.gl + 1)
    (hnd : (keysOf t.ents).Nodup) :
    OkOr (Raw.carry c t hits) (fun r =>
      Inv c.R r.1 ∧ r.1.ents.Perm t.ents ∧ r.1.main.buckets = t.main.buckets ∧
      r.1.main.gl ≤ t.main.gl ∧
      (t.lo = none → r.1 = t ∧ r.2.2 = {}) ∧
      (∀ o, t.lo = some o →
        t.main.gl ≤ r.1.main.gl + min c.R o.ents.length ∧
        r.1.main.ents.length = t.main.ents.length + min c.R o.ents.length ∧
        (o.ents.length ≤ c.R → r.1.lo = none) ∧
        (c.R < o.ents.length → r.1.lo = some { o with ents := o.ents.drop c.R, cursor := o.ents.length - c.R }) ∧
        r.2.2.moved = min c.R o.ents.length ∧ r.2.2.hashes = min c.R o.ents.length ∧
        r.2.2.allocs = 0 ∧ r.2.2.frees = (if o.ents.length ≤ c.R then 1 else 0) ∧ r.2.2.dropped = [])) := by
  obtain ⟨main, lo⟩ := t
  unfold Raw.carry
  cases lo with
  | none => exact .ok ⟨⟨hwf, nofun, nofun, hnd⟩, .refl _, rfl, Nat.le_refl _, fun _ => ⟨rfl, rfl⟩, nofun⟩
  | some o =>
    dsimp only at hwf hhead ⊢
    have hh := hhead o rfl
    refine (carryLoop_spec c.R main o hits {} hwf (hag o rfl) (min_le_of_headroom hR hh)).elim (fun _ => id)
      fun r hr => ?_
    obtain ⟨m, lo', _, cost⟩ := r
    dsimp only at hr ⊢
    obtain ⟨h1, h2, h3, h4, h5, h6, h7, h8, h9, h10, h11, h12, h13⟩ := hr
    rw [Raw.ents_some] at hnd
    -- what stays parked is `o.ents.drop c.R`, whether or not the table is released
    have hents : Raw.ents { main := m, lo := lo' } = m.ents ++ o.ents.drop c.R := by
      rcases Nat.lt_or_ge c.R o.ents.length with hlt | hle
      · rw [h8 hlt, Raw.ents_some]
      · rw [h7 hle, Raw.ents_none, List.drop_eq_nil_of_le hle, List.append_nil]
    -- if the table is not released, a full batch was moved out of it, and that restores the headroom
    have hkept : ∀ o', lo' = some o' → o'.cursor = o'.ents.length ∧
        (o'.ents.length + ceilDiv o'.ents.length c.R ≤ m.gl ∧ 1 ≤ m.gl) := by
      rintro o' rfl
      have hlt : c.R < o.ents.length := Nat.lt_of_not_ge fun hle => by cases h7 hle
      cases h8 hlt
      rw [Nat.min_eq_left (Nat.le_of_lt hlt)] at h4
      refine ⟨List.length_drop.symm, ?_⟩
      simpa only [List.length_drop] using
        headroom_after_moves (L' := o.ents.length - c.R) (lost := 0) hR hh h4 (Nat.sub_add_cancel (Nat.le_of_lt hlt))
          fun _ => ⟨rfl, Nat.sub_pos_of_lt hlt⟩
    refine .ok ⟨⟨h2, fun o' ho' => (hkept o' ho').1, fun o' ho' => (hkept o' ho').2, ?_⟩, ?_, h1, h3, nofun, ?_⟩
    · rw [hents]; exact (keysOf_perm h5).nodup_iff.2 hnd
    · rw [hents, Raw.ents_some]; exact h5
    · rintro _ ⟨rfl⟩
      exact ⟨h4, h6, h7, h8, h9.trans (Nat.zero_add _), h10.trans (Nat.zero_add _), h11, h12.trans (Nat.zero_add _),
        h13⟩

/-- `Inv` is enough for `carry` (it has a unit of headroom to spare). -/
theorem carry_inv (c : Cfg) (hR : 0 < c.R) (t : Raw) (hits : Nat) (h : Inv c.R t) :
    OkOr (Raw.carry c t hits) (fun r => Inv c.R r.1 ∧ r.1.ents.Perm t.ents ∧
      r.1.main.buckets = t.main.buckets ∧ r.2.2.allocs = 0 ∧ r.2.2.moved ≤ c.R ∧
      r.2.2.hashes = r.2.2.moved ∧ r.2.2.dropped = []) := by
  refine (carry_spec c hR t hits h.wf h.agree (fun o ho => Nat.le_succ_of_le (h.head o ho).1) h.nodup).mono
    fun r ⟨h1, h2, h3, _, h5, h6⟩ => ⟨h1, h2, h3, ?_⟩
  cases hlo : t.lo with
  | none => rw [(h5 hlo).2]; exact ⟨rfl, Nat.zero_le _, rfl, rfl⟩
  | some o =>
    obtain ⟨_, _, _, _, hm, hh, ha, _, hd⟩ := h6 o hlo
    rw [hm, hh, ha, hd]
    exact ⟨rfl, Nat.min_le_left _ _, rfl, rfl⟩

end Griddle
