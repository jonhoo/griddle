/-
  The abstraction function (a map from keys to stored entries), what rewriting the element stored for one key does
  to it (`mapAt`), and the refinement lemmas for the core `HashMap` operations: insert, lookups, in-place update,
  removal.
-/
import GriddleModel.Lemmas.Insert
import GriddleModel.Lemmas.Remove
namespace Griddle

theorem absOf_perm {t t' : Raw} (hp : t'.ents.Perm t.ents) (hnd : (keysOf t.ents).Nodup) (k : Nat) :
    absOf t' k = absOf t k := lookupIn_perm hp hnd k

theorem absOf_nil {t : Raw} (h : t.ents = []) (k : Nat) : absOf t k = none := by
  rw [absOf, h]
  rfl

theorem find_eq_abs {R : Nat} {t : Raw} (h : Inv R t) (k : Nat) :
    (t.find k).map (·.2) = absOf t k := find_snd t k

theorem find_abs_cases (t : Raw) (k : Nat) :
    (t.find k = none ∧ absOf t k = none ∧ k ∉ keysOf t.ents) ∨
    ∃ loc e, t.find k = some (loc, e) ∧ absOf t k = some e := by
  have habs := find_snd t k
  cases hf : t.find k with
  | none => rw [hf] at habs; exact .inl ⟨rfl, habs.symm, (absOf_none_iff t k).1 habs.symm⟩
  | some p => rw [hf] at habs; exact .inr ⟨p.1, p.2, rfl, habs.symm⟩

/-- in-place update of the value stored for key `k` -/
def updVal (k v vid : Nat) (x : Entry) : Entry := if x.k == k then { x with v := v, vid := vid } else x

theorem updVal_k (k v vid : Nat) (x : Entry) : (updVal k v vid x).k = x.k := by
  unfold updVal; split <;> rfl

/-- The abstract effect of overwriting the value of a present key in place. -/
def specUpd (a : Nat → Option Entry) (k v vid : Nat) (k' : Nat) : Option Entry :=
  if k' = k then (a k).map (fun x => { x with v := v, vid := vid }) else a k'

theorem updVal_other {k v vid : Nat} {x : Entry} (h : x.k ≠ k) : updVal k v vid x = x := by
  unfold updVal
  have : (x.k == k) = false := by simpa using h
  simp [this]

theorem map_atKey_absent {es : List Entry} {k : Nat} (g : Entry → Entry) (h : k ∉ keysOf es) :
    es.map (fun y => if y.k == k then g y else y) = es := by
  induction es with
  | nil => rfl
  | cons a rest ih =>
    rw [keysOf, List.map_cons, List.mem_cons, not_or] at h
    rw [List.map_cons, ih h.2, if_neg (by simpa using Ne.symm h.1)]

theorem Inv.map_main {R : Nat} {t : Raw} (h : Inv R t) (f : Entry → Entry) (hf : ∀ e, (f e).k = e.k) :
    Inv R { t with main := { t.main with ents := t.main.ents.map f } } := by
  refine ⟨?_, h.agree, h.head, ?_⟩
  · have := h.wf; unfold HB.WF at *; simpa using this
  · have := h.nodup
    rw [keysOf_ents] at this ⊢
    rwa [keysOf_map_same f hf]

theorem Inv.map_old {R : Nat} {t : Raw} (h : Inv R t) {o : Old} (ho : t.lo = some o) (f : Entry → Entry)
    (hf : ∀ e, (f e).k = e.k) : Inv R { t with lo := some { o with ents := o.ents.map f } } := by
  refine ⟨h.wf, ?_, ?_, ?_⟩
  · rintro _ ⟨rfl⟩
    exact (h.agree o ho).trans (List.length_map _).symm
  · rintro _ ⟨rfl⟩
    dsimp only
    rw [List.length_map]
    exact h.head o ho
  · have := h.nodup
    rw [keysOf_ents, oldEnts_of_some ho] at this
    rwa [keysOf_ents, oldEnts_of_some rfl, keysOf_map_same f hf]

/-- Rewrite the element at `loc` in place.  `Map.setValAt`, `Map.setKidAt`, `Map.bump` are instances of it by `rfl`;
    so are, once `loc.k` is known to be the key, the updates written out inside `Map.insert` (`Map.insert_of_find`)
    and `Map.getMut`.  Under `Inv` a key lives in one table only, so this maps `fun y => if y.k == k then g y else y`
    over *both* tables.  The lemmas below are stated with that literal lambda, not a named function, so that they
    match what `unfold` leaves of `HB.setVal`, `Map.bump`, `Raw.replaceAt`. -/
def mapAt (m : Raw) (loc : Loc) (g : Entry → Entry) : Raw :=
  if loc.inMain
  then { m with main := { m.main with ents := m.main.ents.map (fun y => if y.k == loc.k then g y else y) } }
  else { m with lo := m.lo.map (fun ol => { ol with ents := ol.ents.map (fun y => if y.k == loc.k then g y else y) }) }

theorem bump_eq_mapAt (m : Map) (loc : Loc) (add : Nat) :
    Map.bump m loc add = mapAt m loc (fun y => { y with v := y.v + add }) := rfl

theorem mapAt_spec {R : Nat} {t : Raw} (h : Inv R t) {k : Nat} {loc : Loc} {e : Entry}
    (hf : t.find k = some (loc, e)) (g : Entry → Entry) (hg : ∀ x, (g x).k = x.k) :
    Inv R (mapAt t loc g) ∧ (mapAt t loc g).find k = some (loc, g e) ∧
    (mapAt t loc g).main.ents = t.main.ents.map (fun y => if y.k == k then g y else y) ∧
    oldEnts (mapAt t loc g) = (oldEnts t).map (fun y => if y.k == k then g y else y) ∧
    (mapAt t loc g).main.buckets = t.main.buckets ∧ (mapAt t loc g).main.gl = t.main.gl ∧
    (mapAt t loc g).lo.isSome = t.lo.isSome := by
  obtain ⟨rfl, hc⟩ := find_cases hf
  have hge : (if e.k == e.k then g e else e) = g e := if_pos (beq_self_eq_true _)
  obtain ⟨rfl, hin⟩ | ⟨rfl, o, ho, hin⟩ := hc
  · have hi := h.map_main _ (atKey_k e.k hg)
    have hold := h.not_mem_oldEnts (mem_keysOf hin)
    refine ⟨hi, ?_, rfl, (map_atKey_absent g hold).symm, rfl, rfl, rfl⟩
    exact (find_some_iff hi _ _ _).2 ⟨hg e, rfl, .inl ⟨rfl, List.mem_map.2 ⟨e, hin, hge⟩⟩⟩
  · have hi := h.map_old ho _ (atKey_k e.k hg)
    have hmain : e.k ∉ keysOf t.main.ents := fun hk => h.disjoint ho hk (mem_keysOf hin)
    rw [show mapAt t ⟨false, e.k⟩ g =
        { t with lo := some { o with ents := o.ents.map fun y => if y.k == e.k then g y else y } } by
      unfold mapAt; rw [ho]; rfl]
    refine ⟨hi, ?_, (map_atKey_absent g hmain).symm, congrArg (List.map _) (oldEnts_of_some ho).symm, rfl, rfl,
      by rw [ho]; rfl⟩
    exact (find_some_iff hi _ _ _).2 ⟨hg e, rfl, .inr ⟨rfl, _, rfl, List.mem_map.2 ⟨e, hin, hge⟩⟩⟩

theorem mapAt_ents {R : Nat} {t : Raw} (h : Inv R t) {k : Nat} {loc : Loc} {e : Entry}
    (hf : t.find k = some (loc, e)) (g : Entry → Entry) (hg : ∀ x, (g x).k = x.k) :
    (mapAt t loc g).ents = t.ents.map (fun y => if y.k == k then g y else y) := by
  obtain ⟨_, _, hm, ho, _⟩ := mapAt_spec h hf g hg
  rw [Raw.ents_eq_oldEnts, hm, ho, Raw.ents_eq_oldEnts t, List.map_append]

theorem absOf_mapAt {R : Nat} {t : Raw} (h : Inv R t) {k : Nat} {loc : Loc} {e : Entry}
    (hf : t.find k = some (loc, e)) (g : Entry → Entry) (hg : ∀ x, (g x).k = x.k) (k' : Nat) :
    absOf (mapAt t loc g) k' = if k' = k then (absOf t k).map g else absOf t k' := by
  rw [absOf, mapAt_ents h hf g hg]
  exact lookupIn_map_at t.ents k g hg k'

/-- abstract effect of inserting `(k ↦ e)` -/
def specIns (a : Nat → Option Entry) (e : Entry) (k' : Nat) : Option Entry :=
  if k' = e.k then some e else a k'

theorem absOf_ins_of_perm {t t' : Raw} {e : Entry} (hp : t'.ents.Perm (e :: t.ents))
    (hnd : (keysOf (e :: t.ents)).Nodup) (k' : Nat) : absOf t' k' = specIns (absOf t) e k' :=
  (lookupIn_perm hp hnd k').trans (lookupIn_cons e t.ents k')

/-- abstract effect of removing key `k` -/
def specDel (a : Nat → Option Entry) (k : Nat) (k' : Nat) : Option Entry :=
  if k' = k then none else a k'

theorem absOf_filter {t t' : Raw} {k : Nat} (he : t'.ents = t.ents.filter fun x => x.k != k) (k' : Nat) :
    absOf t' k' = specDel (absOf t) k k' := by
  rw [absOf, he]
  exact lookupIn_filter_ne t.ents k k'

theorem idsOf_perm {a b : List Entry} (h : a.Perm b) : (idsOf a).Perm (idsOf b) := by
  unfold idsOf; exact List.Perm.flatMap_right _ h

theorem idsOf_cons (e : Entry) (es : List Entry) : idsOf (e :: es) = e.kid :: e.vid :: idsOf es := by
  simp [idsOf, Entry.ids]

theorem idsOf_append (a b : List Entry) : idsOf (a ++ b) = idsOf a ++ idsOf b := by
  simp [idsOf]

/-- rewriting the one element with key `x.k` of a duplicate-free list exchanges exactly its objects -/
theorem idsOf_map_at {es : List Entry} {x : Entry} (hnd : (keysOf es).Nodup) (hx : x ∈ es) (g : Entry → Entry) :
    (x.ids ++ idsOf (es.map fun y => if y.k == x.k then g y else y)).Perm ((g x).ids ++ idsOf es) := by
  -- `es` is `x` and the rest, which has no element of that key and is left as it is
  have hp := filter_key_perm hnd hx
  have hm := hp.symm.map fun y => if y.k == x.k then g y else y
  rw [List.map_cons, if_pos (beq_self_eq_true _), map_atKey_absent g (filter_key_not_mem x.k)] at hm
  exact ((idsOf_perm hm).append_left _).trans
    ((List.perm_append_comm_assoc ..).trans ((idsOf_perm hp).append_left _))

theorem idsOf_mapAt {R : Nat} {t : Raw} (h : Inv R t) {k : Nat} {loc : Loc} {e : Entry}
    (hf : t.find k = some (loc, e)) (g : Entry → Entry) (hg : ∀ x, (g x).k = x.k) :
    (e.ids ++ idsOf (mapAt t loc g).ents).Perm ((g e).ids ++ idsOf t.ents) := by
  obtain ⟨-, rfl, hin⟩ := find_loc hf
  rw [mapAt_ents h hf g hg]
  exact idsOf_map_at h.nodup hin g

/-- `insert` of a key that is present, with the in-place update written as `mapAt`.  `find` names the old table only
    when there is one, so the `debug_assert!(self.is_split())` before `carry` holds and is gone from the equation. -/
theorem Map.insert_of_find {c : Cfg} {m : Map} {e : Entry} {o : Orc} {loc : Loc} {old : Entry}
    (hf : m.find e.k = some (loc, old)) :
    Map.insert c m e o =
      if loc.inMain then
        .ok (mapAt m loc fun y => { y with v := e.v, vid := e.vid },
          { ret := .optV (some (old.v, old.vid)), cost := { hashes := 1, dropped := [e.kid] }, returned := [old.vid] })
      else match Raw.carry c (mapAt m loc fun y => { y with v := e.v, vid := e.vid }) o.hits with
        | .error f => .error f
        | .ok (m2, _, cost) =>
          .ok (m2, { ret := .optV (some (old.v, old.vid)),
                     cost := { hashes := 1, dropped := [e.kid] } + cost, returned := [old.vid] }) := by
  obtain ⟨inMain, _⟩ := loc
  cases (find_loc hf).1
  unfold Map.insert mapAt HB.setVal
  rw [hf]
  cases inMain with
  | true => rfl
  | false =>
    simp only [Raw.isSplit, Option.isSome_map, find_old_split hf rfl, Bool.not_true, Bool.and_false, Bool.not_false,
      Bool.false_eq_true, if_false, if_true]
    rfl

/-- `HashMap::insert`.  For every invariant state, entry and oracle: either the documented
    capacity-overflow / OOM outcome of a growth, or a state that denotes the updated abstract map;
    the previous value is returned; at most `R` elements are moved, each hashed once, the key is
    hashed once, at most one table is allocated. -/
theorem Map.insert_spec (c : Cfg) (hR : 0 < c.R) (m : Map) (e : Entry) (o : Orc) (h : Inv c.R m) :
    OkOrCap (Map.insert c m e o) (fun r =>
      Inv c.R r.1 ∧
      (∀ k', absOf r.1 k' = (match absOf m e.k with
                             | some _ => specUpd (absOf m) e.k e.v e.vid k'
                             | none => specIns (absOf m) e k')) ∧
      r.2.ret = .optV ((absOf m e.k).map (fun x => (x.v, x.vid))) ∧
      r.2.cost.moved ≤ c.R ∧ r.2.cost.hashes = 1 + r.2.cost.moved ∧ r.2.cost.allocs ≤ 1 ∧
      ((absOf m e.k).isSome → r.2.cost.allocs = 0) ∧
      ((∃ x, x ∈ m.main.ents ∧ x.k = e.k) → r.2.cost.moved = 0 ∧ r.1.lo = m.lo) ∧
      (∀ ol, m.lo = some ol → (absOf m e.k = none ∨ ∃ x, x ∈ ol.ents ∧ x.k = e.k) →
        r.2.cost.moved = min c.R ol.ents.length ∧
        (ol.ents.length ≤ c.R → r.1.lo = none) ∧
        (c.R < ol.ents.length → ∃ o', r.1.lo = some o' ∧ o'.ents.length = ol.ents.length - c.R)) ∧
      -- ledger: stored ⊎ handed back ⊎ dropped = stored before ⊎ the key and value passed in
      (idsOf r.1.ents ++ r.2.returned ++ r.2.cost.dropped).Perm (idsOf m.ents ++ e.ids)) := by
  rcases find_abs_cases m e.k with ⟨hf, ha, hfresh⟩ | ⟨loc, old, hf, ha⟩
  · unfold Map.insert
    rw [hf, ha]
    have hnd : (keysOf (e :: m.ents)).Nodup := keysOf_cons_nodup.2 ⟨hfresh, h.nodup⟩
    refine (Raw.insert_spec c hR m e o.hits o.perm h hfresh).elim (fun _ => id) fun r hr => ?_
    obtain ⟨⟨m', _, cost⟩, s1, s2, s3, s4, s5, s6, -, s8⟩ := r, hr
    dsimp only at s1 s2 s3 s4 s5 s6 s8
    -- the call's cost is the key's hash and what `Raw.insert` spent
    simp only [OkOrCap, Cost.add_moved, Cost.add_allocs, Cost.add_hashes, Cost.add_dropped, Nat.zero_add,
      List.nil_append]
    refine ⟨s1, absOf_ins_of_perm s2 hnd, rfl, s4, congrArg _ s5, s3, nofun, ?_, fun ol hol _ => s8 ol hol, ?_⟩
    · rintro ⟨x, hx, hk⟩
      exact absurd (hk ▸ mem_keysOf (List.mem_append_left _ hx)) hfresh
    · rw [s6, List.append_nil, List.append_nil]
      exact (idsOf_perm s2).trans (List.perm_append_comm (l₁ := e.ids))
  · rw [Map.insert_of_find hf, ha]
    have hg : ∀ x : Entry, ({ x with v := e.v, vid := e.vid } : Entry).k = x.k := fun _ => rfl
    have hi1 := (mapAt_spec h hf _ hg).1
    have hids := (idsOf_mapAt h hf _ hg).cons_inv
    -- whatever follows the in-place update only permutes the entries (`carry`) or leaves them alone
    have fin : ∀ m2 : Raw, m2.ents.Perm (mapAt m loc fun y => { y with v := e.v, vid := e.vid }).ents →
        (∀ k', absOf m2 k' = specUpd (absOf m) e.k e.v e.vid k') ∧
        (idsOf m2.ents ++ [old.vid] ++ [e.kid]).Perm (idsOf m.ents ++ e.ids) := fun m2 hp => by
      refine ⟨fun k' => (absOf_perm hp hi1.nodup k').trans (absOf_mapAt h hf _ hg k'), ?_⟩
      -- I(m2) ++ [ov] ++ [ek] ~ ek :: ov :: I(m2) ~ ek :: ov :: I(m updated) ~ ek :: ev :: I(m) ~ I(m) ++ [ek, ev]
      refine (List.perm_append_singleton _ _).trans (.trans (.cons _ ?_) (List.perm_append_comm (l₁ := e.ids)))
      exact (List.perm_append_singleton _ _).trans (((idsOf_perm hp).cons _).trans hids)
    obtain ⟨hk, ⟨rfl, hin⟩ | ⟨rfl, ol, hol, hin⟩⟩ := find_cases hf
    · -- present in the main table: nothing else happens
      obtain ⟨ha, hl⟩ := fin _ (.refl _)
      refine .ok ⟨hi1, ha, rfl, Nat.zero_le _, rfl, Nat.zero_le _, fun _ => rfl, fun _ => ⟨rfl, rfl⟩, ?_, hl⟩
      rintro ol hol (hn | ⟨x, hx, hxk⟩)
      · cases hn
      · exact (h.disjoint hol (mem_keysOf hin) (hk ▸ hxk ▸ mem_keysOf hx)).elim
    · -- still in the old table, whose entries the update mapped one for one: `carry` follows and sees as many
      -- parked elements as there were before
      rw [if_neg Bool.false_ne_true]
      refine (carry_spec c hR _ o.hits hi1.wf hi1.agree (fun o' ho' => Nat.le_succ_of_le (hi1.head o' ho').1)
        hi1.nodup).toCap.elim (fun _ => id) fun r hr => ?_
      obtain ⟨⟨m2, _, cost⟩, c1, c2, -, -, -, c6⟩ := r, hr
      obtain ⟨-, -, d3, d4, d5, d6, d7, -, d9⟩ := c6 _ (congrArg (Option.map _) hol)
      rw [List.length_map] at d3 d4 d5 d6
      dsimp only at c1 c2 d3 d4 d5 d6 d7 d9
      obtain ⟨ha, hl⟩ := fin m2 c2
      simp only [OkOrCap, Cost.add_moved, Cost.add_allocs, Cost.add_hashes, Cost.add_dropped, Nat.zero_add, d9,
        List.append_nil]
      refine ⟨c1, ha, rfl, d5 ▸ Nat.min_le_left _ _, congrArg _ (d6.trans d5.symm), d7 ▸ Nat.zero_le _, fun _ => d7,
        ?_, ?_, hl⟩
      · rintro ⟨x, hx, hxk⟩
        exact (h.disjoint hol (hk ▸ hxk ▸ mem_keysOf hx) (mem_keysOf hin)).elim
      · rintro _ hol' -
        cases hol.symm.trans hol'
        exact ⟨d5, d3, fun hlt => ⟨_, d4 hlt, by rw [List.length_drop, List.length_map]⟩⟩

/-- lookups: the abstract map's answer; one hash, nothing else; state untouched -/
theorem Map.get_spec (m : Map) (k : Nat) :
    (Map.get m k).ret = .optKV (absOf m k) ∧ (Map.get m k).cost = { hashes := 1 } := by
  unfold Map.get
  exact ⟨by rw [find_snd], rfl⟩

/-- `get_mut` + write: in-place update of the value, wherever the element is stored -/
theorem Map.getMut_spec {R : Nat} (m : Map) (k add : Nat) (h : Inv R m) :
    Inv R (Map.getMut m k add).1 ∧
    (∀ k', absOf (Map.getMut m k add).1 k' =
      (match absOf m k with
       | some x => specUpd (absOf m) k (x.v + add) x.vid k'
       | none => absOf m k')) ∧
    (Map.getMut m k add).2.ret = .optV ((absOf m k).map (fun x => (x.v + add, x.vid))) ∧
    (Map.getMut m k add).2.cost = { hashes := 1 } ∧
    (Map.getMut m k add).1.main.buckets = m.main.buckets ∧ (Map.getMut m k add).1.main.gl = m.main.gl := by
  unfold Map.getMut
  rcases find_abs_cases m k with ⟨hf, ha, -⟩ | ⟨loc, x, hf, ha⟩
  · rw [hf, ha]; exact ⟨h, fun _ => rfl, rfl, rfl, rfl, rfl⟩
  · rw [hf, ha]
    obtain ⟨hi, _, _, _, hb, hg, _⟩ := mapAt_spec h hf (fun y => { y with v := x.v + add, vid := x.vid }) (fun _ => rfl)
    have ha := absOf_mapAt h hf (fun y => { y with v := x.v + add, vid := x.vid }) (fun _ => rfl)
    -- the state `get_mut` leaves is `mapAt` (the code writes `k` where `mapAt` has `loc.k`)
    cases (find_loc hf).1
    exact ⟨hi, ha, rfl, rfl, hb, hg⟩

/-- `remove_entry`: removes exactly that key, hands the stored entry back, one hash, no
    allocation, nothing moved; the invariant (incl. cursor agreement) is kept; if this was the
    old table's last element the old table is released in this very call. -/
theorem Map.removeEntry_spec {R : Nat} (hR : 0 < R) (m : Map) (k : Nat) (o : Orc) (h : Inv R m) :
    ∃ m' out, Map.removeEntry m k o = .ok (m', out) ∧ Inv R m' ∧
      (∀ k', absOf m' k' = specDel (absOf m) k k') ∧
      out.ret = .optKV (absOf m k) ∧
      out.cost.hashes = 1 ∧ out.cost.allocs = 0 ∧ out.cost.moved = 0 ∧ out.cost.dropped = [] ∧
      out.returned = (match absOf m k with | some e => e.ids | none => []) ∧
      (∀ ol, m.lo = some ol → (∃ x, x ∈ ol.ents ∧ x.k = k) → ol.ents.length = 1 → m'.lo = none ∧ out.cost.frees = 1) := by
  unfold Map.removeEntry
  rcases find_abs_cases m k with ⟨hf, hnone, hfresh⟩ | ⟨loc, e, hf, ha⟩
  · rw [hf, hnone]
    refine ⟨m, _, rfl, h, absOf_filter (filter_key_absent hfresh).symm, rfl, rfl, rfl, rfl, rfl, rfl, ?_⟩
    rintro ol hol ⟨x, hx, rfl⟩
    exact absurd (mem_keysOf (by rw [Raw.ents, hol]; exact List.mem_append_right _ hx)) hfresh
  · obtain ⟨t', cost, hr, hi, -, -, -, ca, ch, cm, cd, hold, -⟩ := removeAt_spec hR h hf (decide (0 < o.empt))
    have hents := (removeAt_tables h hf hr).2.2
    obtain ⟨rfl, hcase⟩ := find_cases hf
    rw [hf, ha]
    dsimp only
    rw [hr]
    refine ⟨t', _, rfl, hi, absOf_filter hents, rfl, by simp [ch], by simp [ca], by simp [cm], by simp [cd],
      rfl, ?_⟩
    rintro ol hol ⟨x, hx, hxk⟩ hone
    -- the key is parked, so `find` reported the old table
    rcases hcase with ⟨rfl, hin⟩ | ⟨rfl, -⟩
    · exact (h.disjoint hol (mem_keysOf hin) (hxk ▸ mem_keysOf hx)).elim
    · have := (hold ol hol rfl).1 hone
      exact ⟨this.1, by simp [this.2]⟩

theorem idsOf_map_ids (es : List Entry) (f : Entry → Entry) (hf : ∀ x, (f x).ids = x.ids) :
    idsOf (es.map f) = idsOf es := by
  induction es with
  | nil => rfl
  | cons a rest ih =>
    simp only [List.map_cons, idsOf, List.flatMap_cons] at ih ⊢
    rw [hf a, ih]

end Griddle
